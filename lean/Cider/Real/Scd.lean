/-
  Cider.Real.Scd — sequence charge decoration over ℝ (needs sqrt, so this file is proof-side only;
  the driver evaluates the exact integer lag sums `lagSum`, the harness multiplies by √d).
-/
import Cider.Model.Pattern
import Cider.Lemmas.Sums
import Mathlib.Analysis.Real.Sqrt
import Mathlib.Algebra.BigOperators.Intervals
import Mathlib.Tactic.Ring

namespace Cider
open Finset

/-- charge at 0-based index `i` as a real number (0 outside the sequence) -/
def qAt (p : Pattern) (i : Nat) : ℝ := ((p.getD i 0 : Int) : ℝ)

/-- `Sequence.sequence_charge_decoration`, loops mirrored:
    `for m in range(2, N+1): for n in range(1, m): total += q[m-1]*q[n-1]*(m-n)**0.5`; `return total/N` -/
noncomputable def scdLoop (p : Pattern) : ℝ :=
  ((List.range' 2 (p.length - 1)).foldl
    (fun tot m => (List.range' 1 (m - 1)).foldl
      (fun t n => t + qAt p (m - 1) * qAt p (n - 1) * Real.sqrt (((m - n : Nat) : ℝ))) tot) 0) / (p.length : ℝ)

/-- Sawle–Ghosh: (1/N) Σ_{m>n} q_m q_n √(m−n), residues numbered 1..N -/
noncomputable def scdDef (p : Pattern) : ℝ :=
  (∑ m ∈ Ico 1 (p.length + 1), ∑ n ∈ Ico 1 m, qAt p (m - 1) * qAt p (n - 1) * Real.sqrt (((m - n : Nat) : ℝ))) / (p.length : ℝ)

/-- the form the correspondence evaluates: exact integer lag sums times √d -/
noncomputable def scdLag (p : Pattern) : ℝ :=
  (∑ d ∈ Ico 1 p.length, ((lagSum p d : Int) : ℝ) * Real.sqrt ((d : ℝ))) / (p.length : ℝ)

theorem sum_range'_eq_Ico (f : Nat → ℝ) (a n : Nat) :
    ((List.range' a n).map f).sum = ∑ i ∈ Ico a (a + n), f i := by
  rw [← List.toFinset_range'_1, List.sum_toFinset _ List.nodup_range']

/-- the two accumulation loops as nested list sums -/
theorem scdLoop_eq_sum (p : Pattern) :
    scdLoop p = ((List.range' 2 (p.length - 1)).map (fun m => ((List.range' 1 (m - 1)).map
      (fun n => qAt p (m - 1) * qAt p (n - 1) * Real.sqrt (((m - n : Nat) : ℝ)))).sum)).sum / (p.length : ℝ) := by
  rw [scdLoop]
  simp only [foldl_add, zero_add]

/-- the pair sum regrouped by distance d = m − n -/
theorem pair_sum_by_distance (N : Nat) (F : Nat → Nat → ℝ) :
    (∑ m ∈ Ico 1 (N + 1), ∑ n ∈ Ico 1 m, F m n) = ∑ d ∈ Ico 1 N, ∑ n ∈ Ico 1 (N + 1 - d), F (n + d) n := by
  rw [Finset.sum_sigma', Finset.sum_sigma']
  refine Finset.sum_nbij' (fun x => ⟨x.1 - x.2, x.2⟩) (fun x => ⟨x.2 + x.1, x.2⟩) ?_ ?_ ?_ ?_ ?_
  · simp only [Finset.mem_sigma, Finset.mem_Ico]; intro x hx; omega
  · simp only [Finset.mem_sigma, Finset.mem_Ico]; intro x hx; omega
  · simp only [Finset.mem_sigma, Finset.mem_Ico]
    rintro ⟨m, n⟩ hx
    simp only at hx ⊢
    congr 1; omega
  · simp only [Finset.mem_sigma, Finset.mem_Ico]
    rintro ⟨d, n⟩ hx
    simp only at hx ⊢
    congr 1; omega
  · simp only [Finset.mem_sigma, Finset.mem_Ico]
    rintro ⟨m, n⟩ hx
    simp only at hx ⊢
    congr 1; omega

theorem zip_mul_sum (a b : List Int) :
    ((a.zip b).map (fun ab => ab.1 * ab.2)).sum = ∑ i ∈ range (min a.length b.length), a.getD i 0 * b.getD i 0 := by
  induction a generalizing b with
  | nil => simp
  | cons x xs ih =>
    cases b with
    | nil => simp
    | cons y ys =>
      simp only [List.zip_cons_cons, List.map_cons, List.sum_cons, List.length_cons, ih ys]
      rw [show min (xs.length + 1) (ys.length + 1) = min xs.length ys.length + 1 by omega, Finset.sum_range_succ']
      simp [add_comm]

/-- the zip-based lag sum of the model is Σ_i p[i]·p[i+d] -/
theorem lagSum_index (p : Pattern) (d : Nat) :
    lagSum p d = ∑ i ∈ range (p.length - d), p.getD i 0 * p.getD (i + d) 0 := by
  unfold lagSum
  rw [← List.sum_eq_foldl, zip_mul_sum]
  have : min p.length (p.drop d).length = p.length - d := by simp
  rw [this]
  apply Finset.sum_congr rfl
  intro i _
  congr 1
  simp [List.getD_eq_getElem?_getD, List.getElem?_drop, add_comm]

theorem lagSum_cast (p : Pattern) (d : Nat) :
    ((lagSum p d : Int) : ℝ) = ∑ n ∈ Ico 1 (p.length + 1 - d), qAt p (n + d - 1) * qAt p (n - 1) := by
  rw [lagSum_index, Finset.sum_Ico_eq_sum_range]
  push_cast
  have : p.length + 1 - d - 1 = p.length - d := by omega
  rw [this]
  apply Finset.sum_congr rfl
  intro i _
  unfold qAt
  have e1 : 1 + i + d - 1 = i + d := by omega
  have e2 : 1 + i - 1 = i := by omega
  rw [e1, e2]; ring

/-- **SCD = (1/N) Σ_d lag(d)·√d**: the value the correspondence evaluates from the model's exact integer
    lag sums is the Sawle–Ghosh pair sum -/
theorem scdDef_eq_lag (p : Pattern) : scdDef p = scdLag p := by
  unfold scdDef scdLag
  congr 1
  rw [pair_sum_by_distance p.length (fun m n => qAt p (m - 1) * qAt p (n - 1) * Real.sqrt (((m - n : Nat) : ℝ)))]
  apply Finset.sum_congr rfl
  intro d _
  rw [lagSum_cast, Finset.sum_mul]
  apply Finset.sum_congr rfl
  intro n _
  have : n + d - n = d := by omega
  rw [this]

theorem getD_reverse (p : Pattern) (i : Nat) (h : i < p.length) :
    p.reverse.getD i 0 = p.getD (p.length - 1 - i) 0 := by
  simp [List.getD_eq_getElem?_getD, List.getElem?_reverse h]

theorem lagSum_reverse (p : Pattern) (d : Nat) : lagSum p.reverse d = lagSum p d := by
  rw [lagSum_index, lagSum_index, List.length_reverse]
  rw [← Finset.sum_range_reflect (fun i => p.getD i 0 * p.getD (i + d) 0) (p.length - d)]
  apply Finset.sum_congr rfl
  intro i hi
  have hi' := Finset.mem_range.mp hi
  rw [getD_reverse p i (by omega), getD_reverse p (i + d) (by omega)]
  have e1 : p.length - 1 - i = p.length - d - 1 - i + d := by omega
  have e2 : p.length - 1 - (i + d) = p.length - d - 1 - i := by omega
  rw [e1, e2]; ring

theorem lagSum_negate (p : Pattern) (d : Nat) : lagSum (p.map (fun x => -x)) d = lagSum p d := by
  rw [lagSum_index, lagSum_index, List.length_map]
  apply Finset.sum_congr rfl
  intro i _
  have : ∀ k, (p.map (fun x => -x)).getD k 0 = -(p.getD k 0) := by
    intro k
    simp only [List.getD_eq_getElem?_getD, List.getElem?_map]
    cases p[k]? <;> simp
  rw [this, this]; ring

theorem pair_zero_of_few (p : Pattern) (h : p.countP (fun x => decide (x ≠ 0)) ≤ 1) :
    ∀ i j, i < j → p.getD i 0 * p.getD j 0 = 0 := by
  induction p with
  | nil => intro i j _; simp
  | cons x xs ih =>
    intro i j hij
    rw [List.countP_cons] at h
    cases j with
    | zero => omega
    | succ j' =>
      cases i with
      | zero =>
        simp only [List.getD_cons_zero, List.getD_cons_succ]
        by_cases hx : x = 0
        · simp [hx]
        · have h0 : xs.countP (fun x => decide (x ≠ 0)) = 0 := by
            have : (fun x => decide (x ≠ 0)) x = true := by simp [hx]
            rw [if_pos this] at h
            omega
          have hall := List.countP_eq_zero.mp h0
          by_cases hj : j' < xs.length
          · have := hall (xs[j']) (List.getElem_mem hj)
            simp at this
            simp [List.getD_eq_getElem?_getD, hj, this]
          · simp [List.getD_eq_getElem?_getD, List.getElem?_eq_none (by omega : xs.length ≤ j')]
      | succ i' =>
        simp only [List.getD_cons_succ]
        exact ih (by omega) i' j' (by omega)

end Cider
