/-
  C12 — reduced alphabets implement the documented residue partitions.
  The per-residue facts quantify over the REGENERATED table (all 26 probed sizes × 20 residues).
-/
import Cider.Model.Profiles
import Cider.Lemmas.Alphabet
import Cider.Spec.Partitions
import Cider.Gen.Tables
import Mathlib.Tactic.Basic
import Mathlib.Data.List.Basic

namespace Cider.C12
open Cider

/-- the group of the documented partition that contains `a` -/
def groupOf (P : List (List AA)) (a : AA) : Option (List AA) := P.find? (fun g => g.contains a)

/-- everything the statement says about one predefined size, as a decidable check -/
def sizeOK (k : Nat) : Bool :=
  match Gen.reduceTab k, Gen.alphabetTab k, Spec.partitions k with
  | some f, some al, some P =>
    -- exactly k groups, a partition of the 20 residues
    P.length == k && AA.all.all (fun a => (P.filter (fun g => g.contains a)).length == 1) &&
    -- every residue is mapped to a member of its own documented group, the same one for the whole group
    AA.all.all (fun a => match groupOf P a with
      | some g => g.contains (f a) && g.all (fun b => f b == f a)
      | none => false) &&
    -- reducing twice changes nothing
    AA.all.all (fun a => f (f a) == f a) &&
    -- the alphabet lists exactly the representatives, each once
    al.length == k && AA.all.all (fun a => al.contains (f a)) && al.all (fun x => (al.filter (· == x)).length == 1 && AA.all.any (fun a => f a == x))
  | none, none, none => true
  | _, _, _ => false

/-- **all 12 predefined sizes implement the documented partitions** (and no other size is accepted):
    checked by the kernel against the table regenerated from the live code, sizes 0..25 × 20 residues -/
theorem sizes_implement_documented_partitions : (List.range 26).all sizeOK = true := by decide +kernel

/-- a size is accepted iff it is one of the twelve documented ones (among all sizes 0..25 probed) -/
theorem sizes_accepted_iff :
    ∀ k ∈ List.range 26, (Gen.reduceTab k).isSome = Spec.documentedSizes.contains k := by decide +kernel

theorem probed_sizes : Gen.probedSizes = List.range 26 := by decide

/-! ### sequence-level laws: the reduction is applied residue by residue -/

theorem reduce_ok (rt : Nat → Option (AA → AA)) (at' : Nat → Option (List AA)) (k : Nat) (f : AA → AA) (al : List AA)
    (h1 : rt k = some f) (h2 : at' k = some al) (s : Seq) :
    reduceSeq rt at' (some k) none s = .ok (s.map f, al) := by
  unfold reduceSeq; simp [h1, h2]

theorem reduce_length (f : AA → AA) (s : Seq) : (s.map f).length = s.length := List.length_map _

theorem reduce_append (f : AA → AA) (s t : Seq) : (s ++ t).map f = s.map f ++ t.map f := List.map_append

/-- reducing twice changes nothing (given the per-residue idempotence proved above for every size) -/
theorem reduce_idempotent (f : AA → AA) (hf : ∀ a, f (f a) = f a) (s : Seq) : (s.map f).map f = s.map f := by
  rw [List.map_map]
  exact List.map_congr_left fun a _ => hf a

theorem reduce_entrywise (f : AA → AA) (s : Seq) (i : Nat) : (s.map f)[i]? = (s[i]?).map f := by simp

/-- a size outside the table is rejected -/
theorem reduce_rejects_size (rt : Nat → Option (AA → AA)) (at' : Nat → Option (List AA)) (k : Nat)
    (h : rt k = none) (s : Seq) : reduceSeq rt at' (some k) none s = .error .badAlphabetSize := by
  unfold reduceSeq; simp [h]

theorem imageOf_some_iff (u : UserAlphabet) (a b : AA) :
    imageOf u a = some b ↔ ∃ c, u a = some [c] ∧ AA.ofChar? c = some b := by
  unfold imageOf
  cases hu : u a with
  | none => simp
  | some cs =>
    match cs with
    | [] => simp
    | [c] => simp
    | c :: d :: r => simp

theorem userAlphabetMap_eq_some_iff (u : UserAlphabet) (f : AA → AA) :
    userAlphabetMap u = some f ↔ (∀ a, (imageOf u a).isSome) ∧ f = fun a => (imageOf u a).getD a := by
  simp only [userAlphabetMap, Option.ite_none_right_eq_some, List.all_eq_true, AA.mem_all, forall_const,
    Option.some.injEq, eq_comm (a := f)]

/-- a user alphabet is accepted exactly when it maps every one of the 20 residues to a single
    upper-case amino-acid letter -/
theorem user_accepted_iff (u : UserAlphabet) :
    (userAlphabetMap u).isSome ↔ ∀ a : AA, ∃ c b, u a = some [c] ∧ AA.ofChar? c = some b := by
  simp only [Option.isSome_iff_exists, userAlphabetMap_eq_some_iff, exists_and_left, exists_eq, and_true,
    imageOf_some_iff]
  exact forall_congr' fun a => exists_comm.trans (exists_congr fun c => exists_and_left)

/-- … and is then applied residue by residue: every residue is replaced by the letter it is bound to -/
theorem user_applied_residuewise (rt : Nat → Option (AA → AA)) (at' : Nat → Option (List AA)) (size : Option Nat)
    (u : UserAlphabet) (f : AA → AA) (h : userAlphabetMap u = some f) (s : Seq) :
    reduceSeq rt at' size (some u) s = .ok (s.map f, userAlphabetLetters f) ∧
    ∀ a, ∃ c, u a = some [c] ∧ AA.ofChar? c = some (f a) := by
  refine ⟨by rw [reduceSeq, h], fun a => ?_⟩
  obtain ⟨hall, rfl⟩ := (userAlphabetMap_eq_some_iff u f).mp h
  obtain ⟨b, hb⟩ := Option.isSome_iff_exists.mp (hall a)
  simpa only [hb, Option.getD_some] using (imageOf_some_iff u a b).mp hb

theorem user_rejected (rt : Nat → Option (AA → AA)) (at' : Nat → Option (List AA)) (size : Option Nat)
    (u : UserAlphabet) (h : userAlphabetMap u = none) (s : Seq) :
    reduceSeq rt at' size (some u) s = .error .badAlphabet := by
  unfold reduceSeq; simp [h]

end Cider.C12
