/-
  Cider.Props.C02Src — source-text tie for C02: the body of `Sequence.deltaForm`'s loop over blobs and
  `Sequence.delta`, translated from the live SOURCE on every run, are the summand and the combination
  the model's `deltaForm` / `delta` use: for a blob with `bpos` positive and `bneg` negative residues the
  loop adds (sigma − sigma_blob)² / nblobs with sigma_blob = NCPR_blob² / FCR_blob (0 for an uncharged
  blob), and delta is the mean of the blob-5 and blob-6 values.
-/
import Cider.Gen.Decisions
import Cider.Model.Pattern
import Mathlib.Tactic.Linarith
import Mathlib.Algebra.Order.Field.Rat
namespace Cider.C02Src
open Cider

/-- the loop body as written today adds exactly the model's summand (any blob counts, any window ≥ 1) -/
theorem deltaTerm_eq (x : Rat) (bp bn w : Nat) (hw : 0 < w) (sigma nblobs : Rat) :
    Gen.deltaTermSrc x bp bn w sigma nblobs
      = .ok ((sigma - sigmaOf bp bn w) * (sigma - sigmaOf bp bn w) / nblobs) := by
  have hwq : (0 : Rat) < w := by exact_mod_cast hw
  unfold Gen.deltaTermSrc sigmaOf
  simp only [zero_div, add_zero]
  by_cases h : bp + bn = 0
  · have hq : ((bp : Rat) + (bn : Rat)) / (w : Rat) = 0 := by
      have : (bp : Rat) + (bn : Rat) = 0 := by exact_mod_cast h
      rw [this]; simp
    rw [if_pos hq, if_pos h]
  · have hq : ¬ ((bp : Rat) + (bn : Rat)) / (w : Rat) = 0 := by
      intro hc
      rw [div_eq_zero_iff] at hc
      rcases hc with hc | hc
      · apply h; exact_mod_cast hc
      · linarith
    rw [if_neg hq, if_neg h]

/-- `delta()` as written today is the mean of the two blob sizes' values -/
theorem delta_eq (p : Pattern) : Gen.deltaSrc (deltaForm 5 p) (deltaForm 6 p) = .ok (delta p) := rfl

end Cider.C02Src
