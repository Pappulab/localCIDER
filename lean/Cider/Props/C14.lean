/-
  C14 — sequence files parse to exactly their residues.
-/
import Cider.Model.Text
import Cider.Lemmas.Except
import Mathlib.Tactic.Basic
import Mathlib.Data.List.Basic

namespace Cider.C14
open Cider

/-- characters that are kept from a sequence line: the 20 letters and '*' -/
def kept (c : Char) : Bool := (AA.ofChar? c).isSome || c == '*'
/-- characters that may occur in a sequence line at all -/
def allowed (c : Char) : Bool := kept c || c == ' ' || isDigit c

def isHeader (l : List Char) : Bool := l.head? == some '>'

theorem kept_iff (c : Char) : kept c = true ↔ (AA.ofChar? c).isSome = true ∨ c = '*' := by
  rw [kept, Bool.or_eq_true, beq_iff_eq]

theorem allowed_iff (c : Char) : allowed c = true ↔ kept c = true ∨ c = ' ' ∨ isDigit c = true := by
  rw [allowed, Bool.or_eq_true, Bool.or_eq_true, beq_iff_eq, or_assoc]

theorem validSeqLine_eq (l : List Char) :
    validSeqLine l = if l.all allowed then .ok (l.filter kept) else .error .badFileChar := by
  induction l with
  | nil => rfl
  | cons c cs ih =>
    rw [validSeqLine, ih, List.all_cons, List.filter_cons]
    by_cases hk : kept c = true
    · rw [if_pos ((kept_iff c).mp hk), if_pos hk, (allowed_iff c).mpr (.inl hk)]
      cases cs.all allowed <;> rfl
    · rw [if_neg (mt (kept_iff c).mpr hk), if_neg hk]
      by_cases hb : c = ' ' ∨ isDigit c = true
      · rw [if_pos hb, (allowed_iff c).mpr (.inr hb), Bool.true_and]
      · rw [if_neg hb, Bool.eq_false_iff.mpr (mt (allowed_iff c).mp (not_or.mpr ⟨hk, hb⟩))]; rfl

/-- a sequence line is accepted iff it only contains letters, '*', blanks and digits; what is kept
    is exactly its letters and stars, in order -/
theorem validSeqLine_iff (l r : List Char) :
    validSeqLine l = .ok r ↔ (l.all allowed = true ∧ r = l.filter kept) := by
  rw [validSeqLine_eq, Except.ite_error_right_eq_ok, Except.ok.injEq, eq_comm (b := r)]

/-- the non-blank, stripped lines of a file -/
def logicalLines (ops : CharOps) (ls : List (List Char)) : List (List Char) :=
  (ls.map (stripLine ops)).filter (fun l => !l.isEmpty)

theorem logicalLines_cons (ops : CharOps) (l : List Char) (ls : List (List Char)) :
    logicalLines ops (l :: ls) =
      if (stripLine ops l).isEmpty then logicalLines ops ls else stripLine ops l :: logicalLines ops ls := by
  rw [logicalLines, List.map_cons, List.filter_cons]
  cases (stripLine ops l).isEmpty <;> rfl

theorem parseLines_cons (ops : CharOps) (l : List Char) (ls : List (List Char)) (header : Bool) (acc : List Char) :
    parseLines ops (l :: ls) header acc =
      if (stripLine ops l).isEmpty then parseLines ops ls header acc
      else if isHeader (stripLine ops l) then
        if header then .error .secondHeader else parseLines ops ls true acc
      else if (stripLine ops l).all allowed then parseLines ops ls header (acc ++ (stripLine ops l).filter kept)
      else .error .badFileChar := by
  rw [parseLines, validSeqLine_eq]
  cases (stripLine ops l).all allowed <;> rfl

/-- the line loop with its two state variables (header seen, residues so far): accepted iff no second
    header line, every other line only has allowed characters; the result appends the kept characters -/
theorem parseLines_iff (ops : CharOps) (ls : List (List Char)) (header : Bool) (acc r : List Char) :
    parseLines ops ls header acc = .ok r ↔
      (((logicalLines ops ls).filter isHeader).length + (if header then 1 else 0) ≤ 1 ∧
       (∀ l ∈ (logicalLines ops ls).filter (fun l => !isHeader l), l.all allowed = true) ∧
       r = acc ++ (((logicalLines ops ls).filter (fun l => !isHeader l)).map (List.filter kept)).flatten) := by
  induction ls generalizing header acc with
  | nil =>
    rw [parseLines, Except.ok.injEq, eq_comm]
    cases header <;> simp [logicalLines]
  | cons l ls ih =>
    rw [parseLines_cons, logicalLines_cons]
    by_cases he : (stripLine ops l).isEmpty = true
    · rw [if_pos he, if_pos he, ih]
    · rw [if_neg he, if_neg he]
      by_cases hh : isHeader (stripLine ops l) = true
      · rw [if_pos hh, List.filter_cons_of_pos hh, List.filter_cons_of_neg (by simp [hh]), List.length_cons]
        cases header with
        | true => exact ⟨nofun, fun h => absurd h.1 (by simp)⟩
        | false => exact ih true acc
      · rw [if_neg hh, Except.ite_error_right_eq_ok, ih, List.filter_cons_of_neg hh,
          List.filter_cons_of_pos (by simp [hh]), List.forall_mem_cons, List.map_cons, List.flatten_cons,
          List.append_assoc, and_left_comm, and_assoc]

/-- `__final_validation`: no '*', or exactly one and it is the last character (which is removed) -/
theorem finalValidation_iff (seq r : List Char) :
    finalValidation seq = .ok r ↔
      (seq.count '*' = 0 ∧ r = seq) ∨ (seq.count '*' = 1 ∧ seq.getLast? = some '*' ∧ r = seq.dropLast) := by
  rw [finalValidation]
  by_cases h0 : seq.count '*' = 0
  · rw [if_pos h0, Except.ok.injEq, eq_comm (b := r), or_iff_left fun h => absurd h.1 (by omega), and_iff_right h0]
  · rw [if_neg h0, Except.ite_error_left_eq_ok, Except.ite_error_right_eq_ok, Except.ok.injEq, eq_comm (b := r),
      or_iff_right fun h => h0 h.1, show ¬seq.count '*' > 1 ↔ seq.count '*' = 1 by omega]

theorem finalValidation_ok_eq (seq r : List Char) (h : finalValidation seq = .ok r) :
    r = seq.filter (· != '*') := by
  rcases (finalValidation_iff seq r).mp h with ⟨h0, rfl⟩ | ⟨h1, hl, rfl⟩
  · exact (List.filter_bne_eq_self_of_not_mem (List.count_eq_zero.mp h0)).symm
  · obtain ⟨d, rfl⟩ := List.getLast?_eq_some_iff.mp hl
    rw [List.count_append, List.count_singleton_self, Nat.add_eq_right, List.count_eq_zero] at h1
    rw [List.dropLast_concat, List.filter_append, List.filter_bne_eq_self_of_not_mem h1]
    exact (List.append_nil d).symm

/-- **full characterisation of `parseSeqFile`** (for any `isspace`): a file is accepted iff it has at
    most one header line, every other non-blank line contains only residue letters, '*', blanks and
    digits, and the kept characters contain no '*' or exactly one as the very last character; the result
    is then the kept characters in order (minus that final '*') -/
theorem parseFile_ok_iff (ops : CharOps) (content r : List Char) :
    parseFile ops content = .ok r ↔
      let body := (logicalLines ops (splitLines content)).filter (fun l => !isHeader l)
      let keptAll := (body.map (List.filter kept)).flatten
      ((logicalLines ops (splitLines content)).filter isHeader).length ≤ 1 ∧
      (∀ l ∈ body, l.all allowed = true) ∧
      ((keptAll.count '*' = 0 ∧ r = keptAll) ∨
       (keptAll.count '*' = 1 ∧ keptAll.getLast? = some '*' ∧ r = keptAll.dropLast)) := by
  have bind : parseFile ops content = .ok r ↔
      ∃ seq, parseLines ops (splitLines content) false [] = .ok seq ∧ finalValidation seq = .ok r := by
    rw [parseFile]; cases parseLines ops (splitLines content) false [] <;> simp
  rw [bind]
  simp only [parseLines_iff, finalValidation_iff, Bool.false_eq_true, if_false, Nat.add_zero, List.nil_append]
  exact ⟨fun ⟨_, ⟨h, b, e⟩, f⟩ => ⟨h, b, e ▸ f⟩, fun ⟨h, b, f⟩ => ⟨_, ⟨h, b, rfl⟩, f⟩⟩

/-- an accepted file yields the residue letters of its non-header lines, in order -/
theorem parseFile_ok_letters (ops : CharOps) (content r : List Char) (h : parseFile ops content = .ok r) :
    r = (((logicalLines ops (splitLines content)).filter (fun l => !isHeader l)).flatten).filter
      (fun c => (AA.ofChar? c).isSome) := by
  obtain ⟨_, _, h3⟩ := (parseFile_ok_iff ops content r).mp h
  rw [finalValidation_ok_eq _ r ((finalValidation_iff _ r).mpr h3), ← List.filter_flatten, List.filter_filter]
  apply List.filter_congr
  intro c _
  by_cases hs : c = '*'
  · subst hs; rfl
  · rw [kept, bne_iff_ne.mpr hs, beq_eq_false_iff_ne.mpr hs, Bool.true_and, Bool.or_false]

/-- the result of an accepted file consists of residue letters only -/
theorem parse_result_letters (ops : CharOps) (content r : List Char) (h : parseFile ops content = .ok r) :
    ∀ c ∈ r, (AA.ofChar? c).isSome = true := by
  intro c hc
  rw [parseFile_ok_letters ops content r h] at hc
  exact (List.mem_filter.mp hc).2

/-- a second header line is rejected -/
theorem rejects_second_header (ops : CharOps) (content : List Char)
    (h : 2 ≤ ((logicalLines ops (splitLines content)).filter isHeader).length) :
    ∀ r, parseFile ops content ≠ .ok r := by
  intro r hr
  have := ((parseFile_ok_iff ops content r).mp hr).1
  omega

/-- any character other than a residue letter, '*', a blank or a digit in a sequence line is rejected -/
theorem rejects_other_character (ops : CharOps) (content : List Char) (l : List Char) (c : Char)
    (hl : l ∈ logicalLines ops (splitLines content)) (hh : isHeader l = false) (hc : c ∈ l)
    (hbad : allowed c = false) : ∀ r, parseFile ops content ≠ .ok r := by
  intro r hr
  have h2 := ((parseFile_ok_iff ops content r).mp hr).2.1 l (List.mem_filter.mpr ⟨hl, by simp [hh]⟩)
  exact nomatch hbad.symm.trans (List.all_eq_true.mp h2 c hc)

/-- a repeated '*' or a '*' that is not the last kept character is rejected -/
theorem rejects_bad_star (ops : CharOps) (content : List Char)
    (h : let K := (((logicalLines ops (splitLines content)).filter (fun l => !isHeader l)).map (List.filter kept)).flatten
         2 ≤ K.count '*' ∨ (K.count '*' = 1 ∧ K.getLast? ≠ some '*')) :
    ∀ r, parseFile ops content ≠ .ok r := by
  intro r hr
  have h3 := ((parseFile_ok_iff ops content r).mp hr).2.2
  obtain h2 | ⟨h1, hne⟩ := h
  · rcases h3 with ⟨a, _⟩ | ⟨a, _, _⟩ <;> omega
  · rcases h3 with ⟨a, _⟩ | ⟨_, b, _⟩
    · omega
    · exact hne b

/-- lower-case letters, tabs and punctuation are "other characters" -/
example : allowed 'a' = false ∧ allowed '	' = false ∧ allowed '-' = false ∧ allowed '>' = false ∧
    allowed 'B' = false ∧ allowed 'K' = true ∧ allowed '7' = true ∧ allowed ' ' = true ∧ allowed '*' = true := by decide +kernel

/-! ### files as text: universal-newline splitting inverts joining -/

theorem splitLinesAux_other (c : Char) (rest cur : List Char) (h1 : c ≠ '\r') (h2 : c ≠ '\n') :
    splitLinesAux (c :: rest) cur = splitLinesAux rest (c :: cur) :=
  splitLinesAux.eq_5 cur c rest (fun _ h _ => h1 h) h1 h2

theorem splitLinesAux_append (l : List Char) (hl : ∀ c ∈ l, c ≠ '\r' ∧ c ≠ '\n') (rest cur : List Char) :
    splitLinesAux (l ++ rest) cur = splitLinesAux rest (l.reverse ++ cur) := by
  induction l generalizing cur with
  | nil => rfl
  | cons c cs ih =>
    obtain ⟨hc, hcs⟩ := List.forall_mem_cons.mp hl
    rw [List.cons_append, splitLinesAux_other c _ cur hc.1 hc.2, ih hcs, List.reverse_cons, List.append_assoc]
    rfl

/-- a text file: lines joined by a line terminator -/
def joinLines (nl : List Char) : List (List Char) → List Char
  | [] => []
  | [l] => l
  | l :: m :: ms => l ++ nl ++ joinLines nl (m :: ms)

/-- joining newline-free lines with "\n" (or "\r\n") and splitting gives the lines back -/
theorem splitLines_join (nl : List Char) (hnl : nl = ['\n'] ∨ nl = ['\r', '\n'])
    (l : List Char) (ls : List (List Char))
    (h : ∀ x ∈ l :: ls, ∀ c ∈ x, c ≠ '\r' ∧ c ≠ '\n') :
    splitLines (joinLines nl (l :: ls)) = l :: ls := by
  rw [splitLines]
  induction ls generalizing l with
  | nil =>
    simpa [joinLines, splitLinesAux] using splitLinesAux_append l (h l List.mem_cons_self) [] []
  | cons m ms ih =>
    obtain ⟨hl, hrest⟩ := List.forall_mem_cons.mp h
    rw [joinLines, List.append_assoc, splitLinesAux_append l hl, List.append_nil]
    rcases hnl with rfl | rfl
    · rw [List.singleton_append, splitLinesAux, List.reverse_reverse, ih m hrest]
    · rw [List.cons_append, List.singleton_append, splitLinesAux, List.reverse_reverse, ih m hrest]

theorem layout_char (c : Char) (h : (AA.ofChar? c).isSome = true ∨ c = ' ' ∨ isDigit c = true) :
    allowed c = true ∧ kept c = (AA.ofChar? c).isSome := by
  have hs : (c == '*') = false := beq_eq_false_iff_ne.mpr (by rintro rfl; revert h; decide)
  rw [allowed_iff, kept_iff, kept, hs, Bool.or_false]
  exact ⟨h.imp_left .inl, rfl⟩

/-- **layouts**: a file made of newline-free lines joined by "\n" or "\r\n" — at most one header line,
    the other lines only residue letters, blanks and digits (arbitrary line breaks, blank lines,
    10-residue spacing, position numbers, leading/trailing white space) — parses to exactly the residue
    letters of the non-header lines in order -/
theorem parse_layout (ops : CharOps) (nl : List Char) (hnl : nl = ['\n'] ∨ nl = ['\r', '\n'])
    (l : List Char) (ls : List (List Char))
    (hnonl : ∀ x ∈ l :: ls, ∀ c ∈ x, c ≠ '\r' ∧ c ≠ '\n')
    (hhdr : ((logicalLines ops (l :: ls)).filter isHeader).length ≤ 1)
    (hbody : ∀ x ∈ (logicalLines ops (l :: ls)).filter (fun x => !isHeader x),
      ∀ c ∈ x, (AA.ofChar? c).isSome = true ∨ c = ' ' ∨ isDigit c = true) :
    parseFile ops (joinLines nl (l :: ls)) =
      .ok ((((logicalLines ops (l :: ls)).filter (fun x => !isHeader x)).map
        (List.filter (fun c => (AA.ofChar? c).isSome))).flatten) := by
  rw [parseFile_ok_iff, splitLines_join nl hnl l ls hnonl]
  generalize (logicalLines ops (l :: ls)).filter (fun x => !isHeader x) = B at hbody ⊢
  have hmap : B.map (List.filter kept) = B.map (List.filter fun c => (AA.ofChar? c).isSome) :=
    List.map_congr_left fun x hx => List.filter_congr fun c hc => (layout_char c (hbody x hx c hc)).2
  simp only []
  rw [hmap]
  refine ⟨hhdr, fun x hx => List.all_eq_true.mpr fun c hc => (layout_char c (hbody x hx c hc)).1, .inl ⟨?_, rfl⟩⟩
  rw [List.count_eq_zero, ← List.filter_flatten]
  exact fun h => absurd (List.mem_filter.mp h).2 (by decide)

end Cider.C14
