/-
  C18 — the Wang–Landau bookkeeping obeys the WL update rule (every configuration, every sequence of
  proposals = every schedule, every acceptance decision function).
-/
import Cider.Model.WL
import Mathlib.Tactic.Ring
import Mathlib.Tactic.Linarith
import Mathlib.Algebra.Order.Field.Rat
import Mathlib.Algebra.Order.Field.Basic
import Mathlib.Tactic.Positivity

namespace Cider.C18
open Cider

theorem inside_iff (cfg : WLCfg) (i : Nat) : cfg.inside i = true ↔ cfg.rmin ≤ i ∧ i ≤ cfg.rmax := by
  unfold WLCfg.inside; rw [Bool.and_eq_true, decide_eq_true_eq, decide_eq_true_eq]

theorem wlMove_inside (cfg : WLCfg) (accept : Rat → Bool) (st : WLState) (idxNew : Nat)
    (h : cfg.inside idxNew = true) :
    wlMove cfg accept st idxNew =
      let acc := accept (st.g.getD st.cur 0 - st.g.getD idxNew 0)
      let cur' := if acc then idxNew else st.cur
      ({ st with cur := cur', g := bump st.g cur' (fun x => x + st.lnf), H := bump st.H cur' (fun h => h + 1),
                 nstep := st.nstep + 1 }, acc) := by
  unfold wlMove; rw [if_pos h]

theorem wlMove_outside (cfg : WLCfg) (accept : Rat → Bool) (st : WLState) (idxNew : Nat)
    (h : cfg.inside idxNew = false) :
    wlMove cfg accept st idxNew = ({ st with nstep := st.nstep + 1 }, false) := by
  unfold wlMove; rw [if_neg (by rw [h]; exact Bool.false_ne_true)]

/-- a proposal whose bin lies outside the requested range is never moved to, and nothing is counted:
    occupied bin, g and H are unchanged -/
theorem never_moves_outside (cfg : WLCfg) (accept : Rat → Bool) (st : WLState) (idxNew : Nat)
    (h : cfg.inside idxNew = false) :
    (wlMove cfg accept st idxNew).2 = false ∧ (wlMove cfg accept st idxNew).1.cur = st.cur ∧
    (wlMove cfg accept st idxNew).1.g = st.g ∧ (wlMove cfg accept st idxNew).1.H = st.H := by
  rw [wlMove_outside cfg accept st idxNew h]; exact ⟨rfl, rfl, rfl, rfl⟩

/-- an in-range proposal is accepted exactly when the acceptance decision for Δ = g_old − g_new says so
    (in the driver: `r < min(1, exp Δ)` with `r` from the tape) -/
theorem accept_rule (cfg : WLCfg) (accept : Rat → Bool) (st : WLState) (idxNew : Nat)
    (h : cfg.inside idxNew = true) :
    (wlMove cfg accept st idxNew).2 = accept (st.g.getD st.cur 0 - st.g.getD idxNew 0) ∧
    (wlMove cfg accept st idxNew).1.cur =
      (if accept (st.g.getD st.cur 0 - st.g.getD idxNew 0) then idxNew else st.cur) := by
  rw [wlMove_inside cfg accept st idxNew h]; exact ⟨rfl, rfl⟩

theorem wlFlat_cur (cfg : WLCfg) (st : WLState) : (wlFlat cfg st).cur = st.cur := by
  unfold wlFlat; split_ifs <;> rfl

/-- once inside the range, always inside (the flat check never moves the state) -/
theorem stays_inside (cfg : WLCfg) (accept : Rat → Bool) (st : WLState) (idxNew : Nat)
    (h : cfg.inside st.cur = true) : cfg.inside (wlStep cfg accept st idxNew).1.cur = true := by
  change cfg.inside (wlFlat cfg (wlMove cfg accept st idxNew).1).cur = true
  rw [wlFlat_cur]
  cases hi : cfg.inside idxNew
  · rw [wlMove_outside cfg accept st idxNew hi]; exact h
  · rw [(accept_rule cfg accept st idxNew hi).2]
    split_ifs
    exacts [hi, h]

theorem bump_length {α : Type} (l : List α) (i : Nat) (f : α → α) : (bump l i f).length = l.length :=
  List.length_modify f l i

theorem bump_getD {α : Type} (l : List α) (i j : Nat) (f : α → α) (d : α) (hi : i < l.length) :
    (bump l i f).getD j d = if j = i then f (l.getD j d) else l.getD j d := by
  unfold bump
  rw [List.getD_eq_getElem?_getD, List.getD_eq_getElem?_getD]
  split_ifs with hj
  · rw [hj, List.getElem?_modify_eq, List.getElem?_eq_getElem hi]; rfl
  · rw [List.getElem?_modify_ne f l (Ne.symm hj)]

/-- after every counted step exactly the occupied bin gains ln f in g and 1 in H -/
theorem counted_step_update (cfg : WLCfg) (accept : Rat → Bool) (st : WLState) (idxNew : Nat)
    (h : cfg.inside idxNew = true) (j : Nat)
    (hcur : (wlMove cfg accept st idxNew).1.cur < st.g.length) (hcurH : (wlMove cfg accept st idxNew).1.cur < st.H.length) :
    let st' := (wlMove cfg accept st idxNew).1
    st'.g.getD j 0 = (if j = st'.cur then st.g.getD j 0 + st.lnf else st.g.getD j 0) ∧
    st'.H.getD j 0 = (if j = st'.cur then st.H.getD j 0 + 1 else st.H.getD j 0) := by
  rw [wlMove_inside cfg accept st idxNew h] at hcur hcurH ⊢
  exact ⟨bump_getD _ _ j _ 0 hcur, bump_getD _ _ j _ 0 hcurH⟩

theorem sum_bump_succ (l : List Nat) (i : Nat) (hi : i < l.length) :
    (bump l i (fun h => h + 1)).foldl (fun a b => a + b) 0 = l.foldl (fun a b => a + b) 0 + 1 := by
  obtain ⟨l₁, a, l₂, rfl, -, e⟩ := List.exists_of_modify (fun h => h + 1) hi
  rw [bump, e, ← List.sum_eq_foldl_nat, ← List.sum_eq_foldl_nat, List.sum_append_nat, List.sum_append_nat,
    List.sum_cons, List.sum_cons]
  omega

/-- the histogram counts exactly the counted steps: a counted step adds one, any other step nothing -/
theorem H_sum (cfg : WLCfg) (accept : Rat → Bool) (st : WLState) (idxNew : Nat)
    (hb : (wlMove cfg accept st idxNew).1.cur < st.H.length) :
    ((wlMove cfg accept st idxNew).1.H).foldl (fun a b => a + b) 0 =
      st.H.foldl (fun a b => a + b) 0 + (if cfg.inside idxNew then 1 else 0) := by
  cases h : cfg.inside idxNew
  · rw [wlMove_outside cfg accept st idxNew h]; rfl
  · rw [wlMove_inside cfg accept st idxNew h] at hb ⊢
    exact sum_bump_succ _ _ hb

theorem wlFlat_flat (cfg : WLCfg) (st : WLState) (hs : st.nstep % cfg.nflatchk = 0) (hf : isFlat cfg st.H = true) :
    wlFlat cfg st =
      { st with H := List.replicate cfg.nbins 0, fexp := st.fexp + 1, nstep := 0, niter := st.niter + 1 } := by
  unfold wlFlat; rw [if_pos hs, if_pos hf]

theorem wlFlat_not_flat (cfg : WLCfg) (st : WLState) (hs : st.nstep % cfg.nflatchk = 0)
    (hf : isFlat cfg st.H = false) : wlFlat cfg st = { st with nstep := 0 } := by
  unfold wlFlat; rw [if_pos hs, if_neg (by rw [hf]; exact Bool.false_ne_true)]

/-- between scheduled checks nothing happens -/
theorem flat_only_at_schedule (cfg : WLCfg) (st : WLState) (hs : st.nstep % cfg.nflatchk ≠ 0) : wlFlat cfg st = st := by
  unfold wlFlat; rw [if_neg hs]

/-- f ← √f (exponent + 1), H ← 0 and the iteration counter advance exactly when a scheduled check finds
    every bin of the range at or above the flatness criterion; otherwise f, H, niter are untouched; the
    step counter restarts at every scheduled check -/
theorem flat_rule (cfg : WLCfg) (st : WLState) (hs : st.nstep % cfg.nflatchk = 0) :
    (isFlat cfg st.H = true →
      (wlFlat cfg st).fexp = st.fexp + 1 ∧ (wlFlat cfg st).H = List.replicate cfg.nbins 0 ∧
      (wlFlat cfg st).niter = st.niter + 1 ∧ (wlFlat cfg st).nstep = 0 ∧ (wlFlat cfg st).g = st.g) ∧
    (isFlat cfg st.H = false →
      (wlFlat cfg st).fexp = st.fexp ∧ (wlFlat cfg st).H = st.H ∧ (wlFlat cfg st).niter = st.niter ∧
      (wlFlat cfg st).nstep = 0 ∧ (wlFlat cfg st).g = st.g) := by
  constructor
  · intro h; rw [wlFlat_flat cfg st hs h]; exact ⟨rfl, rfl, rfl, rfl, rfl⟩
  · intro h; rw [wlFlat_not_flat cfg st hs h]; exact ⟨rfl, rfl, rfl, rfl, rfl⟩

/-- what "flat" means: the range holds all target bins, at least one count, and every bin h satisfies
    h / mean ≥ flatcrit, i.e. flatcrit · Σh ≤ h · (number of bins) -/
theorem isFlat_iff (cfg : WLCfg) (H : List Nat) :
    isFlat cfg H = true ↔
      0 < (localH cfg H).foldl (fun a b => a + b) 0 ∧ (localH cfg H).length = cfg.ntarget ∧
      ∀ h ∈ localH cfg H, cfg.flatcrit * (((localH cfg H).foldl (fun a b => a + b) 0 : Nat) : Rat) ≤ (h : Rat) * ((localH cfg H).length : Rat) := by
  unfold isFlat
  simp only [Bool.and_eq_true, decide_eq_true_eq, List.all_eq_true, and_assoc]

/-- the loop runs exactly while f > convergence, i.e. ln f = 2^(−fexp) > ln(convergence) -/
theorem stop_rule (cfg : WLCfg) (st : WLState) : wlRunning cfg st = true ↔ cfg.convLn < 1 / (2 : Rat) ^ st.fexp := by
  unfold wlRunning WLState.lnf; simp

/-- **per-iteration bookkeeping**: within an iteration g = (g at the start of the iteration) + ln f · H,
    bin by bin (`g_bookkeeping`: preserved by every move; `g_bookkeeping_flat`: a successful flat check
    starts the next iteration from the current g with H = 0) -/
def Bookkept (base : List Rat) (st : WLState) : Prop :=
  st.g.length = st.H.length ∧ base.length = st.g.length ∧
  ∀ j, st.g.getD j 0 = base.getD j 0 + st.lnf * ((st.H.getD j 0 : Nat) : Rat)

theorem g_bookkeeping (cfg : WLCfg) (accept : Rat → Bool) (base : List Rat) (st : WLState) (idxNew : Nat)
    (hb : Bookkept base st) (hcur : st.cur < st.g.length) (hnew : idxNew < st.g.length) :
    Bookkept base (wlMove cfg accept st idxNew).1 := by
  cases h : cfg.inside idxNew
  · rw [wlMove_outside cfg accept st idxNew h]; exact hb
  · obtain ⟨h1, h2, h3⟩ := hb
    have hlt : (wlMove cfg accept st idxNew).1.cur < st.g.length := by
      rw [(accept_rule cfg accept st idxNew h).2]
      split_ifs
      exacts [hnew, hcur]
    obtain ⟨hg, hH, hf⟩ : (wlMove cfg accept st idxNew).1.g.length = st.g.length ∧
        (wlMove cfg accept st idxNew).1.H.length = st.H.length ∧ (wlMove cfg accept st idxNew).1.lnf = st.lnf := by
      rw [wlMove_inside cfg accept st idxNew h]; exact ⟨bump_length _ _ _, bump_length _ _ _, rfl⟩
    refine ⟨by rw [hg, hH, h1], by rw [hg, h2], fun j => ?_⟩
    obtain ⟨u1, u2⟩ := counted_step_update cfg accept st idxNew h j hlt (h1 ▸ hlt)
    rw [u1, u2, hf, h3 j]
    split_ifs
    · push_cast; ring
    · rfl

theorem g_bookkeeping_flat (cfg : WLCfg) (base : List Rat) (st : WLState) (hb : Bookkept base st)
    (hn : st.g.length = cfg.nbins) :
    (isFlat cfg st.H = true ∧ st.nstep % cfg.nflatchk = 0 → Bookkept st.g (wlFlat cfg st)) ∧
    (¬ (isFlat cfg st.H = true ∧ st.nstep % cfg.nflatchk = 0) → Bookkept base (wlFlat cfg st)) := by
  constructor
  · rintro ⟨hf, hs⟩
    rw [wlFlat_flat cfg st hs hf]
    refine ⟨hn.trans List.length_replicate.symm, rfl, fun j => ?_⟩
    have h0 : (List.replicate cfg.nbins 0).getD j 0 = 0 := by
      rw [List.getD_eq_getElem?_getD, List.getElem?_replicate]; split_ifs <;> rfl
    simp only [h0, Nat.cast_zero, mul_zero, add_zero]
  · intro hnot
    by_cases hs : st.nstep % cfg.nflatchk = 0
    · rw [wlFlat_not_flat cfg st hs (by simpa [hs] using hnot)]; exact hb
    · rw [flat_only_at_schedule cfg st hs]; exact hb

theorem binCentre_eq (n i : Nat) : binCentre n i = (i : Rat) / n + 1 / (2 * n) := by
  unfold binCentre; rw [add_div, mul_div_mul_left _ _ two_ne_zero]

/-- bin centres are the midpoints of an equal partition of [0,1] into n bins -/
theorem bin_centres (n i : Nat) (hn : 0 < n) (hi : i < n) :
    binCentre n i = ((i : Rat) / n + ((i : Rat) + 1) / n) / 2 ∧ 0 < binCentre n i ∧ binCentre n i < 1 := by
  have hnq : (0 : Rat) < 2 * n := mul_pos two_pos (Nat.cast_pos.mpr hn)
  have hiq : (i : Rat) + 1 ≤ n := by exact_mod_cast hi
  exact ⟨by rw [binCentre_eq]; ring, div_pos (by positivity) hnq, (div_lt_one hnq).mpr (by linarith)⟩

end Cider.C18
