/-
  Cider.Props.C13Src — source-text tie for C13: `Sequence.__check_window_to_length` as `tools/pyexpr2lean.py` translates it
  from the live SOURCE on every run (Gen/Decisions.lean) raises exactly when the model's `profile` does (window size
  and length in ℕ).  A changed threshold, comparison direction, branch order or returned value in the source
  breaks a proof here.
-/
import Cider.Gen.Decisions
import Cider.Model.Profiles
import Mathlib.Algebra.Order.Field.Rat
namespace Cider.C13Src
open Cider

theorem checkWindow_error_iff (bloblen len : Rat) : Gen.checkWindow bloblen len = .error () ↔ len < bloblen := by
  rw [Gen.checkWindow]
  split_ifs with h <;> simp [h]

/-- `__check_window_to_length` as written today rejects exactly `len < w` (the guard of `profile`). -/
theorem checkWindow_eq (w len : Nat) :
    (Gen.checkWindow (w : Rat) (len : Rat) = .error ()) ↔ len < w := by
  rw [checkWindow_error_iff, Nat.cast_lt]

/-- the window profile of the model raises exactly when the translated guard does -/
theorem checkWindow_profile {α : Type} (stat : List α → Rat) (w : Nat) (l : List α) :
    (Gen.checkWindow (w : Rat) (l.length : Rat) = .error ()) ↔ profile stat w l = .error .windowTooLong := by
  rw [checkWindow_eq, profile]
  split_ifs with h <;> simp [h]

end Cider.C13Src
