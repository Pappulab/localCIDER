/-
  C18 (binning) — `argmin |bincts − kappa|` really is "the bin that contains kappa": the index the
  Wang–Landau machine computes for a proposal is a nearest bin centre, hence (for kappa in [0,1]) the
  bin of the equal partition whose closed interval holds kappa.  Together with `never_moves_outside`
  this is what "never moves to a sequence whose kappa bin lies outside the requested range" means.
-/
import Cider.Props.C18
import Cider.Lemmas.Sums
import Mathlib.Algebra.Order.Floor.Semiring
import Mathlib.Data.Rat.Floor

namespace Cider.C18
open Cider

/-- |centre_i − k| as the model writes it -/
def binDist (n : Nat) (k : Rat) (i : Nat) : Rat :=
  if binCentre n i - k < 0 then k - binCentre n i else binCentre n i - k

theorem binDist_eq_abs (n : Nat) (k : Rat) (i : Nat) : binDist n k i = |binCentre n i - k| := by
  unfold binDist
  split_ifs with h
  · rw [abs_of_neg h, neg_sub]
  · rw [abs_of_nonneg (not_lt.mp h)]

/-- first-minimiser fold: the result carries its own distance, is the start or a list element, and is
    no farther than the start and than every list element -/
theorem argmin_fold (d : Nat → Rat) (l : List Nat) (b : Nat × Rat) (hb : b.2 = d b.1) :
    let r := l.foldl (fun (best : Nat × Rat) i => if d i < best.2 then (i, d i) else best) b
    r.2 = d r.1 ∧ (r.1 = b.1 ∨ r.1 ∈ l) ∧ r.2 ≤ b.2 ∧ ∀ j ∈ l, r.2 ≤ d j := by
  -- the first minimiser of `d` is the first maximiser of `-d`
  have h := foldl_max_spec (fun i => -d i) (fun best : Nat × Rat => -best.2) (fun i => (i, d i))
    (fun _ => rfl) l b
  simp only [neg_lt_neg_iff, neg_le_neg_iff] at h
  obtain ⟨h1, h2, h3 | ⟨a, ha, h3, _⟩⟩ := h
  · exact ⟨by rw [h3]; exact hb, .inl (by rw [h3]), h1, h2⟩
  · exact ⟨by rw [h3], .inr (by rw [h3]; exact ha), h1, h2⟩

theorem binOf_eq_fold (n : Nat) (k : Rat) :
    binOf n k = ((List.range n).foldl (fun (best : Nat × Rat) i => if binDist n k i < best.2 then (i, binDist n k i) else best)
      (0, binDist n k 0)).1 := rfl

/-- **the computed bin is a nearest bin centre**: it is a valid index and no centre is closer to kappa -/
theorem binOf_nearest (n : Nat) (hn : 0 < n) (k : Rat) :
    binOf n k < n ∧ ∀ j < n, |binCentre n (binOf n k) - k| ≤ |binCentre n j - k| := by
  rw [binOf_eq_fold]
  obtain ⟨h1, h2, _, h4⟩ := argmin_fold (binDist n k) (List.range n) (0, binDist n k 0) rfl
  constructor
  · rcases h2 with h2 | h2
    · rw [h2]; exact hn
    · exact List.mem_range.mp h2
  · intro j hj
    rw [← binDist_eq_abs, ← binDist_eq_abs, ← h1]
    exact h4 j (List.mem_range.mpr hj)

theorem abs_binCentre_sub_le_iff (n j : Nat) (k : Rat) :
    |binCentre n j - k| ≤ 1 / (2 * n) ↔ (j : Rat) / n ≤ k ∧ k ≤ ((j : Rat) + 1) / n := by
  have hw : ((j : Rat) + 1) / n = j / n + 1 / (2 * n) + 1 / (2 * n) := by ring
  rw [binCentre_eq, hw, abs_sub_le_iff, sub_le_iff_le_add', add_le_add_iff_right, sub_le_iff_le_add']

theorem exists_bin_contains (n : Nat) (hn : 0 < n) (k : Rat) (h0 : 0 ≤ k) (h1 : k ≤ 1) :
    ∃ j < n, (j : Rat) / n ≤ k ∧ k ≤ ((j : Rat) + 1) / n := by
  have hnq : (0 : Rat) < n := by exact_mod_cast hn
  simp only [div_le_iff₀ hnq, le_div_iff₀ hnq]
  rcases h1.lt_or_eq with h1 | rfl
  · have hkn : 0 ≤ k * n := mul_nonneg h0 hnq.le
    exact ⟨⌊k * n⌋₊, (Nat.floor_lt hkn).mpr (mul_lt_of_lt_one_left hnq h1), Nat.floor_le hkn,
      (Nat.lt_floor_add_one _).le⟩
  · refine ⟨n - 1, Nat.pred_lt hn.ne', ?_⟩
    rw [Nat.cast_pred hn, one_mul, sub_add_cancel]
    exact ⟨sub_le_self _ zero_le_one, le_rfl⟩

/-- **the computed bin contains kappa**: for kappa in [0,1] the bin index i satisfies
    i/n ≤ kappa ≤ (i+1)/n (the closed interval of bin i of the equal partition) -/
theorem binOf_contains (n : Nat) (hn : 0 < n) (k : Rat) (h0 : 0 ≤ k) (h1 : k ≤ 1) :
    ((binOf n k : Nat) : Rat) / n ≤ k ∧ k ≤ ((binOf n k : Rat) + 1) / n := by
  -- the centre of a bin that contains kappa is within half a bin width of it, so the nearest centre is too
  obtain ⟨j, hj, hk⟩ := exists_bin_contains n hn k h0 h1
  exact (abs_binCentre_sub_le_iff n _ k).mp
    (((binOf_nearest n hn k).2 j hj).trans ((abs_binCentre_sub_le_iff n j k).mpr hk))

theorem snd_argmin_fold (d : Nat → Rat) (l : List Nat) (b : Nat × Rat) :
    (l.foldl (fun (best : Nat × Rat) i => if d i < best.2 then (i, d i) else best) b).2 =
      l.foldl (fun (m : Rat) i => if d i < m then d i else m) b.2 :=
  (List.foldl_hom Prod.snd (H := fun b i => (apply_ite Prod.snd _ (i, d i) b).symm)).symm

theorem binCandidates_eq (n : Nat) (k : Rat) :
    binCandidates n k = (List.range n).filter (fun i => binDist n k i = binDist n k (binOf n k)) := by
  -- the running minimum in `binCandidates` is the distance component of the fold in `binOf`
  rw [binOf_eq_fold, ← (argmin_fold (binDist n k) (List.range n) (0, binDist n k 0) rfl).1, snd_argmin_fold]
  rfl

theorem binCentre_inj (n i j : Nat) (hn : 0 < n) (h : binCentre n i = binCentre n j) : i = j := by
  rw [binCentre_eq, binCentre_eq, add_left_inj, div_left_inj' (Nat.cast_ne_zero.mpr hn.ne')] at h
  exact_mod_cast h

/-- a kappa that IS a bin centre has exactly one nearest bin -/
theorem binCandidates_centre (n j : Nat) (hj : j < n) : binCandidates n (binCentre n j) = [j] := by
  have hn : 0 < n := by omega
  have h0 : binDist n (binCentre n j) (binOf n (binCentre n j)) = 0 := by
    have h := (binOf_nearest n hn (binCentre n j)).2 j hj
    rw [sub_self, abs_zero] at h
    rw [binDist_eq_abs]; exact le_antisymm h (abs_nonneg _)
  have hiff : ∀ i, (binDist n (binCentre n j) i = 0) = (i = j) := fun i => by
    rw [binDist_eq_abs, abs_eq_zero, sub_eq_zero]
    exact propext ⟨binCentre_inj n i j hn, fun h => by rw [h]⟩
  simp only [binCandidates_eq, h0, hiff]
  rw [List.filter_eq, List.count_eq_one_of_mem List.nodup_range (List.mem_range.mpr hj)]
  rfl

theorem pyRound_intCast (z : Int) : pyRound (z : Rat) = z := by
  unfold pyRound
  simp only [Rat.floor_intCast, sub_self]
  rw [if_pos (by norm_num)]

/-- **an aligned request is tiled exactly**: when the requested window [j/m, (j+nb)/m] consists of nb whole
    bins of the partition of [0,1] into m bins, the machine uses exactly that partition and its relevant
    range starts at bin j (and so covers exactly the requested window) -/
theorem wlConfig_aligned (m j nb : Nat) (hm : 0 < m) (hnb : 0 < nb) (hj : j + nb ≤ m) :
    wlConfig ((j : Rat) / m) (((j : Rat) + nb) / m) nb = (m, [j]) := by
  have hnbq : (nb : Rat) ≠ 0 := Nat.cast_ne_zero.mpr hnb.ne'
  have hw : (((j : Rat) + nb) / m - (j : Rat) / m) / (nb : Rat) = 1 / m := by
    rw [← sub_div, add_sub_cancel_left, div_right_comm, div_self hnbq]
  have hc : (j : Rat) / m + 1 / (m : Rat) / 2 = binCentre m j := by
    rw [binCentre_eq, div_div, mul_comm]
  unfold wlConfig
  simp only [hw, one_div_one_div, hc]
  rw [← Int.cast_natCast, pyRound_intCast, Int.toNat_natCast,
    binCandidates_centre m j ((Nat.lt_add_of_pos_right hnb).trans_le hj)]

/-- **a move is only ever made to a sequence whose kappa lies in the relevant interval**: if the walker
    moved (the proposal with kappa `k ∈ [0,1]` was accepted) then `rmin/n ≤ k ≤ (rmax+1)/n`, the union of
    the closed intervals of the relevant bins of the `n`-bin partition the machine uses -/
theorem moved_implies_kappa_in_range (cfg : WLCfg) (accept : Rat → Bool) (st : WLState) (k : Rat)
    (hn : 0 < cfg.nbins) (h0 : 0 ≤ k) (h1 : k ≤ 1)
    (hmoved : (wlMove cfg accept st (binOf cfg.nbins k)).2 = true) :
    (cfg.rmin : Rat) / cfg.nbins ≤ k ∧ k ≤ ((cfg.rmax : Rat) + 1) / cfg.nbins := by
  have hnq : (0 : Rat) ≤ cfg.nbins := Nat.cast_nonneg _
  cases hin : cfg.inside (binOf cfg.nbins k)
  · rw [(never_moves_outside cfg accept st _ hin).1] at hmoved; exact absurd hmoved Bool.false_ne_true
  · obtain ⟨hmin, hmax⟩ := (inside_iff cfg _).mp hin
    obtain ⟨hlo, hhi⟩ := binOf_contains cfg.nbins hn k h0 h1
    exact ⟨(div_le_div_of_nonneg_right (Nat.cast_le.mpr hmin) hnq).trans hlo,
      hhi.trans (div_le_div_of_nonneg_right (add_le_add_left (Nat.cast_le.mpr hmax) 1) hnq)⟩

end Cider.C18
