/-
  Cider.Props.C16Src — source-text tie for C16: the per-site decision in the loop of `Sequence.setPhosPhoSites`
  (index shift, range test, S/T/Y test, duplicate test, what gets appended) and the letter lists of
  `setPhosPhoSites` / `get_STY_residues`, as `tools/pyexpr2lean.py` translates them from the live SOURCE on every
  run (Gen/Decisions.lean), are the model's `Obj.setSite` / `isSTY` for EVERY object and EVERY requested site.
  A changed range test (`idx > len`, `idx <= 0`), index shift, letter set, dropped duplicate test or an append of
  `site` instead of `idx` breaks a proof here.
-/
import Cider.Gen.Decisions
import Cider.Model.Object
namespace Cider.C16Src
open Cider

/-- both letter lists are exactly the phosphorylatable residues S/T/Y (order irrelevant) -/
theorem letters_eq (a : AA) :
    decide (a.toChar ∈ Gen.setSiteSrcLetters) = isSTY a ∧ decide (a.toChar ∈ Gen.stySrcLetters) = isSTY a := by
  cases a <;> decide +kernel

/-- apply what the translated loop body decided -/
def applyDecision (o : Obj) (r : Except Unit (Option Int)) : Obj :=
  match r with
  | .ok (some i) => { o with phos := o.phos ++ [i.toNat] }
  | _ => o

/-- one pass of the source's loop body IS `Obj.setSite`, for every object and every integer site -/
theorem setSite_eq (o : Obj) (site : Int) :
    Obj.setSite o site =
      applyDecision o (Gen.setSiteSrc site o.seq.length (residueIsSTY o.seq (site - 1).toNat)
        (decide ((site - 1).toNat ∈ o.phos))) := by
  unfold Obj.setSite Gen.setSiteSrc Obj.addSite
  by_cases h1 : site - 1 < 0 ∨ (o.seq.length : Int) ≤ site - 1
  · simp only [if_pos h1, if_pos (show site - 1 ≥ (o.seq.length : Int) ∨ site - 1 < 0 by omega)]
    rfl
  · simp only [if_neg h1, if_neg (show ¬(site - 1 ≥ (o.seq.length : Int) ∨ site - 1 < 0) by omega)]
    cases residueIsSTY o.seq (site - 1).toNat
    · rfl
    · by_cases hm : (site - 1).toNat ∈ o.phos
      · rw [if_pos hm, decide_eq_true hm]
        rfl
      · rw [if_neg hm, decide_eq_false hm]
        rfl

/-- the whole call: folding the source's loop body over the requested sites is `Obj.setPhos` -/
theorem setPhos_eq (o : Obj) (sites : List Int) :
    Obj.setPhos o sites =
      sites.foldl (fun o site => applyDecision o (Gen.setSiteSrc site o.seq.length
        (residueIsSTY o.seq (site - 1).toNat) (decide ((site - 1).toNat ∈ o.phos)))) o := by
  unfold Obj.setPhos
  congr 1
  funext o site
  exact setSite_eq o site

/-- what the source appends is always an in-range, not yet listed index of an S/T/Y residue -/
theorem appended_ok (site len : Int) (b1 b2 : Bool) (i : Int) (h : Gen.setSiteSrc site len b1 b2 = .ok (some i)) :
    i = site - 1 ∧ 0 ≤ i ∧ i < len ∧ b1 = true ∧ b2 = false := by
  unfold Gen.setSiteSrc at h
  by_cases h1 : site - 1 ≥ len ∨ site - 1 < 0
  · simp only [if_pos h1] at h
    cases h
  · simp only [if_neg h1] at h
    cases b1 <;> cases b2 <;> cases h
    exact ⟨rfl, by omega, by omega, rfl, rfl⟩

end Cider.C16Src
