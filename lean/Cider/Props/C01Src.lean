/-
  Cider.Props.C01Src — source-text tie for C01: `Sequence.kappa / Sequence.sigma` as `tools/pyexpr2lean.py` translates it
  from the live SOURCE on every run (Gen/Decisions.lean) agrees with the hand-written model the C01 theorems
  are about: the kappa decision for all rational arguments, sigma for all counts that fit the length.  A changed threshold, comparison direction, branch
  order or returned value in the source breaks a proof here.
-/
import Cider.Gen.Decisions
import Cider.Model.SeqParams
import Mathlib.Algebra.Order.Field.Rat
namespace Cider.C01Src
open Cider

/-- `Sequence.kappa`'s guard / rounding band as written today IS `kappaOf` (C01). -/
theorem kappaDecision_eq (dm d : Rat) : Gen.kappaDecision dm d = .ok (kappaOf d dm) := by
  unfold Gen.kappaDecision kappaOf
  simp only [gt_iff_lt, div_one]
  split_ifs <;> simp_all

/-- `Sequence.sigma` as written today IS `sigmaOf` on counts (delta is built from it). -/
theorem sigmaDecision_eq (a b len : Nat) (hlen : a + b ≤ len) (h0 : 0 < len) :
    Gen.sigmaDecision ((len - (a + b) : Nat) : Rat) (len : Rat)
        (((a : Rat) - (b : Rat)) / (len : Rat)) (((a : Rat) + (b : Rat)) / (len : Rat))
      = .ok (sigmaOf a b len) := by
  unfold Gen.sigmaDecision sigmaOf
  by_cases hab : a + b = 0
  · have : ((len - (a + b) : Nat) : Rat) = (len : Rat) := by simp [hab]
    simp [hab]
  · have hne : ((len - (a + b) : Nat) : Rat) ≠ (len : Rat) := by
      intro h
      have : len - (a + b) = len := by exact_mod_cast h
      omega
    rw [if_neg hne, if_neg hab]

end Cider.C01Src
