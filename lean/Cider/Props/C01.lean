/-
  C01 — kappa is delta/delta-max, lies in [0,1] (where the family contains the maximiser), and is
  −1 only when undefined.
-/
import Cider.Props.C03

namespace Cider.C01
open Cider

theorem dmax_nonneg (p : Pattern) : 0 ≤ dmax p := Cider.C03.dmax_nonneg _ _ _

/-! the decision `kappaOf d dm` on non-negative `d`, `dm` — the function `C01Src` ties to the source text -/

theorem kappaOf_of_ne {d dm : Rat} (h : dm ≠ 0) :
    kappaOf d dm = if 1 < d / dm ∧ d / dm < 11 / 10 then 1 else d / dm := by
  rw [kappaOf, if_neg h]

theorem kappaOf_nonneg {d dm : Rat} (hd : 0 ≤ d) (hm : 0 ≤ dm) (h : dm ≠ 0) : 0 ≤ kappaOf d dm := by
  rw [kappaOf_of_ne h]
  split_ifs
  · exact zero_le_one
  · exact div_nonneg hd hm

theorem kappaOf_eq_neg_one_iff {d dm : Rat} (hd : 0 ≤ d) (hm : 0 ≤ dm) : kappaOf d dm = -1 ↔ dm = 0 := by
  refine ⟨fun h => by_contra fun h0 => ?_, fun h => by rw [kappaOf, if_pos h]⟩
  have := kappaOf_nonneg hd hm h0
  rw [h] at this
  norm_num at this

theorem kappaOf_le_one_iff {d dm : Rat} (hm : 0 < dm) : kappaOf d dm ≤ 1 ↔ d < 11 / 10 * dm := by
  rw [kappaOf_of_ne hm.ne', ← div_lt_iff₀ hm]
  split_ifs with hc
  · exact iff_of_true le_rfl hc.2
  · -- outside the reporting band the ratio is at most 1 or at least 1.1
    rw [not_and_or, not_lt, not_lt] at hc
    exact ⟨fun h => h.trans_lt (by norm_num), fun h => hc.resolve_right (not_le.mpr h)⟩

theorem dmax_pos {p : Pattern} (h : dmax p ≠ 0) : 0 < dmax p := lt_of_le_of_ne (dmax_nonneg p) (Ne.symm h)

/-- the sentinel: kappa is −1 exactly when delta-max is 0 (the ratio itself can never be −1) -/
theorem kappa_neg_one_iff (p : Pattern) : kappa p = -1 ↔ dmax p = 0 :=
  kappaOf_eq_neg_one_iff (delta_nonneg p) (dmax_nonneg p)

/-- otherwise kappa is the ratio, a ratio in the open window (1, 1.1) being reported as exactly 1 -/
theorem kappa_eq_ratio (p : Pattern) (h : dmax p ≠ 0) :
    kappa p = (if 1 < delta p / dmax p ∧ delta p / dmax p < 11 / 10 then 1 else delta p / dmax p) :=
  kappaOf_of_ne h

theorem kappa_nonneg (p : Pattern) (h : dmax p ≠ 0) : 0 ≤ kappa p :=
  kappaOf_nonneg (delta_nonneg p) (dmax_nonneg p) h

/-- exact characterisation of when the documented promise kappa ≤ 1 holds -/
theorem kappa_le_one_iff (p : Pattern) (h : dmax p ≠ 0) :
    kappa p ≤ 1 ↔ delta p < 11 / 10 * dmax p :=
  kappaOf_le_one_iff (dmax_pos h)

/-- hence the range promise −1 or [0,1] holds for a pattern iff its delta is below 1.1·delta-max -/
theorem kappa_range_iff (p : Pattern) :
    (kappa p = -1 ∨ (0 ≤ kappa p ∧ kappa p ≤ 1)) ↔ (dmax p = 0 ∨ delta p < 11 / 10 * dmax p) := by
  by_cases h : dmax p = 0
  · simp [h, (kappa_neg_one_iff p).mpr h]
  · have hne : kappa p ≠ -1 := fun hk => h ((kappa_neg_one_iff p).mp hk)
    simp only [hne, h, false_or]
    rw [← kappa_le_one_iff p h]
    exact ⟨fun hh => hh.2, fun hh => ⟨kappa_nonneg p h, hh⟩⟩

/-- every member of the documented family of its own composition has kappa in {−1} ∪ [0,1] -/
theorem kappa_of_family_member (p : Pattern)
    (hp : p ∈ candidates (countPos p) (countNeg p) (countNeut p)) :
    kappa p = -1 ∨ (0 ≤ kappa p ∧ kappa p ≤ 1) := by
  rw [kappa_range_iff]
  by_cases h : dmax p = 0
  · exact .inl h
  · have hm := dmax_pos h
    have hpos : 0 < countPos p + countNeg p :=
      Nat.pos_of_ne_zero fun h0 => h (dmaxComp_of_uncharged h0 _)
    have := (dmaxComp_spec _ _ (countNeut p) hpos).1 p hp
    rw [dmax] at hm ⊢
    exact .inr (by linarith)

/-- the sequence handed back by `get_deltaMax(True)` — the Wang–Landau start state — has kappa exactly 1
    whenever delta-max is non-zero -/
theorem kappa_of_dmax_permutant (s : Seq) (h : seqDmax specTables s ≠ 0) :
    seqKappa specTables (dmaxPermutant specTables s) = 1 := by
  obtain ⟨hperm, hdelta⟩ := Cider.C03.dmax_attained s
  have hd : seqDmax specTables (dmaxPermutant specTables s) = seqDmax specTables s :=
    Cider.C03.dmax_composition_only specTables _ _ hperm
  rw [show seqKappa specTables (dmaxPermutant specTables s)
      = kappaOf (seqDelta specTables (dmaxPermutant specTables s)) (seqDmax specTables (dmaxPermutant specTables s))
      from rfl, hdelta, hd, kappaOf_of_ne h, div_self h, if_neg (by norm_num)]

/-- **the full range statement is FALSE of the pinned code** (known finding F-C01-1): the documented
    family misses the maximiser of composition (2,4,0); `KEEEEK` has kappa 98/53 ≈ 1.849 -/
theorem kappa_gt_one_witness : kappa [1, -1, -1, -1, -1, 1] = 98 / 53 := by decide +kernel

/-- the part of the range promise that does hold, for every pattern -/
theorem kappa_range_partial (p : Pattern) :
    (kappa p = -1 ↔ dmax p = 0) ∧ (dmax p ≠ 0 → 0 ≤ kappa p) ∧
    (dmax p ≠ 0 → (kappa p ≤ 1 ↔ delta p < 11 / 10 * dmax p)) :=
  ⟨kappa_neg_one_iff p, kappa_nonneg p, kappa_le_one_iff p⟩

/-! non-vacuity -/
example : kappa [1, 1, 1, 0, 0, -1, -1, -1] ≤ 1 ∧ 0 ≤ kappa [1, 1, 1, 0, 0, -1, -1, -1] := by
  constructor <;> decide +kernel
example : kappa [0, 0, 0, 0, 0, 0, 0] = -1 := by decide +kernel
example : dmax [1, -1, 0, 0, 0] = 0 ∧ kappa [1, -1, 0, 0, 0] = -1 := by constructor <;> decide +kernel

end Cider.C01
