/-
  C04 — Composition parameters equal their published per-residue definitions.
-/
import Cider.Lemmas.Sums
import Cider.Lemmas.Counts
import Cider.Model.TablesSpec
import Mathlib.Data.List.Perm.Basic
import Mathlib.Data.List.Count

namespace Cider.C04
open Cider

/-- the published classes: expanding = D,E,K,R,P; disorder-promoting = T,A,G,R,D,H,Q,K,S,E,P -/
theorem published_classes :
    AA.all.filter Spec.expanding = [.D, .E, .K, .P, .R] ∧
    AA.all.filter Spec.disorderPromoting = [.A, .D, .E, .G, .H, .K, .P, .Q, .R, .S, .T] ∧
    AA.all.filter (fun a => decide (0 < Spec.charge a)) = [.K, .R] ∧
    AA.all.filter (fun a => decide (Spec.charge a < 0)) = [.D, .E] := by
  refine ⟨rfl, rfl, rfl, rfl⟩

/-- the accumulation loop `ans += table(res)/len` is the mean of the per-residue values -/
theorem meanOf_eq_spec (tab : AA → Int × Nat) (s : Seq) :
    meanOf tab s = (s.map (fun a => ndToRat (tab a))).sum / (s.length : Rat) := by
  unfold meanOf; rw [foldl_add_div]; simp

theorem ppii_eq_spec (tab : AA → Int × Nat) (s : Seq) :
    ppii tab s = (s.map (fun a => ndToRat (tab a))).sum / (s.length : Rat) := by
  unfold ppii; rw [foldl_add]; simp

/-- molecular weight: the sum of residue masses minus 18 Da per peptide bond -/
theorem molWeight_eq_spec (T : Tables) (s : Seq) :
    molWeight T s = (s.map (fun a => ndToRat (T.mw a))).sum - 18 * ((s.length : Rat) - 1) := by
  unfold molWeight; rw [foldl_add]; simp

/-- counts are `countP` of the published classes -/
theorem nPos_eq_spec (s : Seq) : nPos specTables s = s.countP (fun a => a = AA.K ∨ a = AA.R) := by
  unfold nPos countPos patternOf; rw [List.countP_map]; congr 1; funext a; cases a <;> rfl

theorem nNeg_eq_spec (s : Seq) : nNeg specTables s = s.countP (fun a => a = AA.D ∨ a = AA.E) := by
  unfold nNeg countNeg patternOf; rw [List.countP_map]; congr 1; funext a; cases a <;> rfl

theorem nNeut_eq_spec (s : Seq) :
    nNeut specTables s = s.countP (fun a => ¬ (a = AA.K ∨ a = AA.R ∨ a = AA.D ∨ a = AA.E)) := by
  unfold nNeut countNeut patternOf; rw [List.countP_map]; congr 1; funext a; cases a <;> rfl

/-- the pattern only takes the values +1, −1, 0 -/
theorem chargeSign_cases (c : Int) : chargeSign c = 1 ∨ chargeSign c = -1 ∨ chargeSign c = 0 := by
  unfold chargeSign; split <;> [simp; (split <;> simp)]

/-- counts sum to the length (any tables) -/
theorem counts_sum (T : Tables) (s : Seq) : nPos T s + nNeg T s + nNeut T s = s.length :=
  nPos_add_nNeg_add_nNeut T s

theorem fcr_eq_fplus_add_fminus (T : Tables) (s : Seq) : fcr T s = fPlus T s + fMinus T s := by
  unfold fcr fPlus fMinus; push_cast; ring

theorem ncpr_eq_fplus_sub_fminus (T : Tables) (s : Seq) : ncpr T s = fPlus T s - fMinus T s := by
  unfold ncpr fPlus fMinus; push_cast; ring

theorem meanNetCharge_eq_abs (T : Tables) (s : Seq) : meanNetCharge T s = |ncpr T s| := by
  unfold meanNetCharge
  split
  · rename_i h; rw [abs_of_neg h]
  · rename_i h; rw [abs_of_nonneg (not_lt.mp h)]

/-- |NCPR| ≤ FCR ≤ 1 for a non-empty sequence -/
theorem abs_ncpr_le_fcr_le_one (T : Tables) (s : Seq) (hs : s ≠ []) :
    |ncpr T s| ≤ fcr T s ∧ fcr T s ≤ 1 := by
  have hN : (0 : Rat) < (s.length : Rat) := by
    have : 0 < s.length := List.length_pos_iff.mpr hs
    exact_mod_cast this
  have hsum := counts_sum T s
  have hp : (0 : Rat) ≤ fPlus T s := by unfold fPlus; exact div_nonneg (Nat.cast_nonneg _) (Nat.cast_nonneg _)
  have hm : (0 : Rat) ≤ fMinus T s := by unfold fMinus; exact div_nonneg (Nat.cast_nonneg _) (Nat.cast_nonneg _)
  constructor
  · rw [fcr_eq_fplus_add_fminus, ncpr_eq_fplus_sub_fminus, abs_le]; constructor <;> linarith
  · unfold fcr
    rw [div_le_one hN]
    have : nPos T s + nNeg T s ≤ s.length := by omega
    exact_mod_cast this

/-- FER = FCR + fraction of proline -/
theorem fer_eq_fcr_add_fP (T : Tables) (s : Seq) : fer T s = fcr T s + aaFraction s AA.P := by
  unfold fer fcr aaFraction; push_cast; ring

/-- the 20 amino-acid fractions sum to 1 for a non-empty sequence -/
theorem aaFractions_sum_one (s : Seq) (hs : s ≠ []) : (AA.all.map (aaFraction s)).sum = 1 := by
  have hN : (s.length : Rat) ≠ 0 := by
    have : 0 < s.length := List.length_pos_iff.mpr hs
    exact_mod_cast this.ne'
  have h1 : (AA.all.map (aaFraction s)) = AA.all.map (fun a => ((s.count a : Nat) : Rat) / (s.length : Rat)) := rfl
  rw [h1, sum_map_div (fun a => ((s.count a : Nat) : Rat)), ← natCast_sum_map, sum_count_all]
  exact div_self hN

/-- Uversky-normalised hydropathy is the shifted Kyte–Doolittle mean divided by 9 -/
theorem uversky_eq_kd_div_9 (s : Seq) : uverskyHydropathy specTables s = meanHydropathy specTables s / 9 := by
  unfold uverskyHydropathy meanHydropathy
  rw [meanOf_eq_spec, meanOf_eq_spec]
  have : ∀ a, ndToRat (specTables.kdU a) = ndToRat (specTables.kd a) / 9 := by
    intro a; cases a <;> decide +kernel
  simp only [this]
  rw [sum_map_div]; ring

/-- every composition parameter is unchanged by permuting the sequence -/
theorem perm_invariant (T : Tables) (s t : Seq) (h : s.Perm t) :
    nPos T s = nPos T t ∧ nNeg T s = nNeg T t ∧ nNeut T s = nNeut T t ∧
    fPlus T s = fPlus T t ∧ fMinus T s = fMinus T t ∧ fcr T s = fcr T t ∧ ncpr T s = ncpr T t ∧
    meanNetCharge T s = meanNetCharge T t ∧ fer T s = fer T t ∧ fracDisorder T s = fracDisorder T t ∧
    (∀ a, aaFraction s a = aaFraction t a) ∧
    meanHydropathy T s = meanHydropathy T t ∧ uverskyHydropathy T s = uverskyHydropathy T t ∧
    meanWW T s = meanWW T t ∧
    ppii T.ppiiH s = ppii T.ppiiH t ∧ ppii T.ppiiC s = ppii T.ppiiC t ∧ ppii T.ppiiK s = ppii T.ppiiK t ∧
    molWeight T s = molWeight T t := by
  have hl : s.length = t.length := h.length_eq
  have hpat : (patternOf T s).Perm (patternOf T t) := h.map _
  have hp : nPos T s = nPos T t := hpat.countP_eq _
  have hn : nNeg T s = nNeg T t := hpat.countP_eq _
  have h0 : nNeut T s = nNeut T t := hpat.countP_eq _
  have hc : ∀ a, s.count a = t.count a := fun a => h.count_eq a
  have hsum : ∀ tab : AA → Int × Nat,
      (s.map (fun a => ndToRat (tab a))).sum = (t.map (fun a => ndToRat (tab a))).sum :=
    fun tab => (h.map _).sum_eq
  have hncpr : ncpr T s = ncpr T t := by unfold ncpr; rw [hp, hn, hl]
  refine ⟨hp, hn, h0, ?_, ?_, ?_, hncpr, ?_, ?_, ?_, ?_, ?_, ?_, ?_, ?_, ?_, ?_, ?_⟩
  · unfold fPlus; rw [hp, hl]
  · unfold fMinus; rw [hn, hl]
  · unfold fcr; rw [hp, hn, hl]
  · unfold meanNetCharge; rw [hncpr]
  · unfold fer; rw [hp, hn, hl, hc]
  · unfold fracDisorder; rw [h.countP_eq, hl]
  · intro a; unfold aaFraction; rw [hc, hl]
  · unfold meanHydropathy; rw [meanOf_eq_spec, meanOf_eq_spec, hsum, hl]
  · unfold uverskyHydropathy; rw [meanOf_eq_spec, meanOf_eq_spec, hsum, hl]
  · unfold meanWW; rw [meanOf_eq_spec, meanOf_eq_spec, hsum, hl]
  · rw [ppii_eq_spec, ppii_eq_spec, hsum, hl]
  · rw [ppii_eq_spec, ppii_eq_spec, hsum, hl]
  · rw [ppii_eq_spec, ppii_eq_spec, hsum, hl]
  · rw [molWeight_eq_spec, molWeight_eq_spec, hsum, hl]

/-! non-vacuity: concrete values on a sequence containing C, R, W (absent from the pinned test protein) -/
example : fcr specTables [.K, .E, .C, .R, .W] = 3 / 5 ∧ ncpr specTables [.K, .E, .C, .R, .W] = 1 / 5 := by
  constructor <;> decide +kernel
example : meanHydropathy specTables [.C, .R, .W] = (7 + 0 + 18 / 5) / 3 := by decide +kernel

end Cider.C04
