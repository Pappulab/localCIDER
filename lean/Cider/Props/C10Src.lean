/-
  Cider.Props.C10Src — source-text tie for C10: the integer bookkeeping at the head of each of the six
  sliding-window profile functions (`nblobs`, `flank`, `flank_start`, `flank_end`), translated from the
  live SOURCE on every run, is the model's `flanks` / window count for every legal window — all six
  copies of that code, separately.
-/
import Cider.Gen.Decisions
import Cider.Props.C10
namespace Cider.C10Src
open Cider

/-- what the model says the prefix computes -/
def expected (w N : Nat) : Except Unit (Int × Int × Int) :=
  .ok (((flanks w N).1 : Int), ((flanks w N).2 : Int), ((N + 1 - w : Nat) : Int))

theorem tdiv_two (w : Nat) : Int.tdiv (w : Int) 2 = ((w / 2 : Nat) : Int) := by
  rw [Int.tdiv_eq_ediv_of_nonneg (by omega)]; omega

/-- the shape all six copies have today -/
def shape (bloblen len : Int) : Except Unit (Int × Int × Int) :=
  let nblobs : Int := ((len - bloblen) + (1 : Int))
  let flank : Int := (Int.tdiv bloblen (2 : Int))
  if ((((2 : Int) * flank) + nblobs) = len) then .ok (flank, flank, nblobs) else .ok (flank - 1, flank, nblobs)

theorem shape_eq (w N : Nat) (hw : 1 ≤ w) (hN : w ≤ N) : shape w N = expected w N := by
  unfold shape expected flanks
  simp only [tdiv_two]
  by_cases h : 2 * (w / 2) + (N + 1 - w) = N
  · have h' : (2 : Int) * ((w / 2 : Nat) : Int) + ((N : Int) - (w : Int) + 1) = (N : Int) := by omega
    rw [if_pos h', if_pos h]
    congr 2; congr 1; omega
  · have h' : ¬ (2 : Int) * ((w / 2 : Nat) : Int) + ((N : Int) - (w : Int) + 1) = (N : Int) := by omega
    rw [if_neg h', if_neg h]
    congr 2
    · simp only; omega
    · congr 1; omega

theorem flanksNCPR_eq (w N : Nat) (hw : 1 ≤ w) (hN : w ≤ N) : Gen.flanksNCPR w N = expected w N :=
  (show Gen.flanksNCPR w N = shape w N from rfl).trans (shape_eq w N hw hN)
theorem flanksFCR_eq (w N : Nat) (hw : 1 ≤ w) (hN : w ≤ N) : Gen.flanksFCR w N = expected w N :=
  (show Gen.flanksFCR w N = shape w N from rfl).trans (shape_eq w N hw hN)
theorem flanksSigma_eq (w N : Nat) (hw : 1 ≤ w) (hN : w ≤ N) : Gen.flanksSigma w N = expected w N :=
  (show Gen.flanksSigma w N = shape w N from rfl).trans (shape_eq w N hw hN)
theorem flanksHydro_eq (w N : Nat) (hw : 1 ≤ w) (hN : w ≤ N) : Gen.flanksHydro w N = expected w N :=
  (show Gen.flanksHydro w N = shape w N from rfl).trans (shape_eq w N hw hN)
theorem flanksHydro2_eq (w N : Nat) (hw : 1 ≤ w) (hN : w ≤ N) : Gen.flanksHydro2 w N = expected w N :=
  (show Gen.flanksHydro2 w N = shape w N from rfl).trans (shape_eq w N hw hN)
theorem flanksDensity_eq (w N : Nat) (x : Int) (hw : 1 ≤ w) (hN : w ≤ N) : Gen.flanksDensity w x N = expected w N :=
  (show Gen.flanksDensity w x N = shape w N from rfl).trans (shape_eq w N hw hN)

/-- in the closed form of `C10.flanks_eq`: leading flank ⌊(w-1)/2⌋, trailing flank ⌊w/2⌋, N-w+1 windows — from the source text -/
theorem source_flanks (w N : Nat) (hw : 1 ≤ w) (hN : w ≤ N) :
    Gen.flanksNCPR w N = .ok ((((w - 1) / 2 : Nat) : Int), ((w / 2 : Nat) : Int), ((N - w + 1 : Nat) : Int)) := by
  rw [flanksNCPR_eq w N hw hN, expected, C10.flanks_eq w N hw hN, show N + 1 - w = N - w + 1 by omega]

end Cider.C10Src
