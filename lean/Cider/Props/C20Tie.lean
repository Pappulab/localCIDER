/-
  C20 (tie) — the default palette and the accept/reject behaviour of the colour check tabulated from the
  live code on this run agree with the published palette and the documented 17 colour names.
-/
import Cider.Model.Text
import Cider.Spec.Published
import Cider.Gen.Tables
namespace Cider.C20
open Cider

theorem gen_defaultPalette_eq_published :
    Gen.defaultPalette = Spec.defaultPalette ∧ Gen.defaultPaletteConst = Spec.defaultPalette := by
  constructor <;> (funext a; cases a <;> rfl)

/-- every probed colour name (17 documented + 24 others incl. wrong case, padded, hex, empty) is accepted
    by the live `set_HTMLColorResiduePalette` exactly when it is one of the documented 17 -/
theorem gen_colour_check_eq_documented :
    Gen.colourProbe.all (fun ca => ca.2 == htmlColours.contains ca.1) = true ∧
    htmlColours.all (fun c => Gen.colourProbe.contains (c, true)) = true := by
  constructor <;> decide +kernel

/-- the default palette only uses documented colours -/
theorem default_palette_valid : AA.all.all (fun a => htmlColours.contains (Spec.defaultPalette a)) = true := by
  decide +kernel

end Cider.C20
