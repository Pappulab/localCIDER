/-
  C19 — the five coloured regions drawn are the ones the region function uses: a marker at (f+, f−) lies
  inside the polygon of the region the sequence is assigned.  `edges_poly1` … `edges_poly5` read each
  polygon as thresholds on (f+, f−).  The polygons are the frozen published ones; Cider.Props.C19Tie
  proves that the figure the live code draws has these.
-/
import Cider.Spec.PublishedPolygons
import Cider.Props.C08
import Mathlib.Tactic.Ring
import Mathlib.Tactic.Linarith

namespace Cider.C19
open Cider

abbrev Pt := Rat × Rat

def toPt (v : (Int × Nat) × (Int × Nat)) : Pt := ((v.1.1 : Rat) / (v.1.2 : Rat), (v.2.1 : Rat) / (v.2.2 : Rat))

/-- signed area test of point `p` against the directed edge a → b -/
def cross (a b p : Pt) : Rat := (b.1 - a.1) * (p.2 - a.2) - (b.2 - a.2) * (p.1 - a.1)

def edgesOf (P : List Pt) : List (Pt × Pt) := P.zip (P.rotate 1)

/-- closed convex polygon: the point is on the same side of every edge -/
def inPoly (P : List Pt) (p : Pt) : Prop :=
  (∀ e ∈ edgesOf P, cross e.1 e.2 p ≤ 0) ∨ (∀ e ∈ edgesOf P, 0 ≤ cross e.1 e.2 p)

def strictlyInPoly (P : List Pt) (p : Pt) : Prop :=
  (∀ e ∈ edgesOf P, cross e.1 e.2 p < 0) ∨ (∀ e ∈ edgesOf P, 0 < cross e.1 e.2 p)

/-- the region of a point of the composition simplex (x = f+, y = f−) by the exact thresholds -/
def regionXY (x y : Rat) : Nat :=
  if x + y < 1/4 then 1 else if x + y ≤ 7/20 then 2
  else if -7/20 < x - y ∧ x - y < 7/20 then 3 else if y < x then 5 else 4

def poly (k : Nat) : List Pt := ((Spec.phasePolygons.getD (k - 1) []).map toPt)

theorem poly1 : poly 1 = [(0, 0), (0, 1/4), (1/4, 0)] := by decide +kernel
theorem poly2 : poly 2 = [(0, 1/4), (0, 7/20), (7/20, 0), (1/4, 0)] := by decide +kernel
theorem poly3 : poly 3 = [(0, 7/20), (13/40, 27/40), (27/40, 13/40), (7/20, 0)] := by decide +kernel
theorem poly4 : poly 4 = [(0, 7/20), (0, 1), (13/40, 27/40)] := by decide +kernel
theorem poly5 : poly 5 = [(7/20, 0), (27/40, 13/40), (1, 0)] := by decide +kernel

theorem uversky0 : (Spec.uverskyPolygons.getD 0 []).map toPt = [(0, 1), (0, 413/1000), (193/250, 1)] := by
  decide +kernel
theorem uversky1 : (Spec.uverskyPolygons.getD 1 []).map toPt =
    [(0, 0), (0, 413/1000), (193/250, 1), (1, 1), (1, 0)] := by decide +kernel

theorem edges3 (a b c : Pt) : edgesOf [a, b, c] = [(a, b), (b, c), (c, a)] := rfl
theorem edges4 (a b c d : Pt) : edgesOf [a, b, c, d] = [(a, b), (b, c), (c, d), (d, a)] := rfl
theorem edges5 (a b c d e : Pt) : edgesOf [a, b, c, d, e] = [(a, b), (b, c), (c, d), (d, e), (e, a)] := rfl

/-- `R` is `<`, `≤`, `>` or `≥`: a positive multiple of `a - b` compares with 0 as `a` with `b` -/
def SignTest (R : Rat → Rat → Prop) : Prop := ∀ k a b : Rat, 0 < k → (R (k * a - k * b) 0 ↔ R a b)

theorem SignTest.edge {R : Rat → Rat → Prop} (hR : SignTest R) (k : Rat) {a b v : Rat}
    (hk : 0 < k := by norm_num) (hv : v = k * a - k * b := by ring) : R v 0 ↔ R a b := hv ▸ hR k a b hk

theorem signTest_lt : SignTest (· < ·) := fun _ _ _ hk => sub_neg.trans (mul_lt_mul_iff_of_pos_left hk)
theorem signTest_le : SignTest (· ≤ ·) := fun _ _ _ hk => sub_nonpos.trans (mul_le_mul_iff_of_pos_left hk)
theorem signTest_gt : SignTest (· > ·) := fun _ _ _ hk => sub_pos.trans (mul_lt_mul_iff_of_pos_left hk)
theorem signTest_ge : SignTest (· ≥ ·) := fun _ _ _ hk => sub_nonneg.trans (mul_le_mul_iff_of_pos_left hk)

section
variable {R : Rat → Rat → Prop} (hR : SignTest R) {x y : Rat}
include hR

theorem edges_poly1 :
    (∀ e ∈ edgesOf (poly 1), R (cross e.1 e.2 (x, y)) 0) ↔ R 0 x ∧ R (x + y) (1/4) ∧ R 0 y := by
  rw [poly1, edges3]
  simp only [List.forall_mem_cons, List.not_mem_nil, false_imp_iff, implies_true, and_true, cross]
  exact and_congr (hR.edge (1/4)) <| and_congr (hR.edge (1/4)) (hR.edge (1/4))

theorem edges_poly2 :
    (∀ e ∈ edgesOf (poly 2), R (cross e.1 e.2 (x, y)) 0) ↔
      R 0 x ∧ R (x + y) (7/20) ∧ R 0 y ∧ R (1/4) (x + y) := by
  rw [poly2, edges4]
  simp only [List.forall_mem_cons, List.not_mem_nil, false_imp_iff, implies_true, and_true, cross]
  exact and_congr (hR.edge (1/10)) <| and_congr (hR.edge (7/20)) <|
    and_congr (hR.edge (1/10)) (hR.edge (1/4))

theorem edges_poly3 :
    (∀ e ∈ edgesOf (poly 3), R (cross e.1 e.2 (x, y)) 0) ↔
      R (-7/20) (x - y) ∧ R (x + y) 1 ∧ R (x - y) (7/20) ∧ R (7/20) (x + y) := by
  rw [poly3, edges4]
  simp only [List.forall_mem_cons, List.not_mem_nil, false_imp_iff, implies_true, and_true, cross]
  exact and_congr (hR.edge (13/40)) <| and_congr (hR.edge (7/20)) <|
    and_congr (hR.edge (13/40)) (hR.edge (7/20))

theorem edges_poly4 :
    (∀ e ∈ edgesOf (poly 4), R (cross e.1 e.2 (x, y)) 0) ↔ R 0 x ∧ R (x + y) 1 ∧ R (x - y) (-7/20) := by
  rw [poly4, edges3]
  simp only [List.forall_mem_cons, List.not_mem_nil, false_imp_iff, implies_true, and_true, cross]
  exact and_congr (hR.edge (13/20)) <| and_congr (hR.edge (13/40)) (hR.edge (13/40))

theorem edges_poly5 :
    (∀ e ∈ edgesOf (poly 5), R (cross e.1 e.2 (x, y)) 0) ↔ R (7/20) (x - y) ∧ R (x + y) 1 ∧ R 0 y := by
  rw [poly5, edges3]
  simp only [List.forall_mem_cons, List.not_mem_nil, false_imp_iff, implies_true, and_true, cross]
  exact and_congr (hR.edge (13/40)) <| and_congr (hR.edge (13/40)) (hR.edge (13/20))

end

/-- **a marker lies inside the region whose number the sequence is assigned**, for every point of the
    composition simplex -/
theorem region_in_polygon (x y : Rat) (hx : 0 ≤ x) (hy : 0 ≤ y) (h1 : x + y ≤ 1) :
    inPoly (poly (regionXY x y)) (x, y) := by
  unfold regionXY
  split_ifs with a b c d
  · exact .inl ((edges_poly1 signTest_le).mpr ⟨hx, a.le, hy⟩)
  · exact .inl ((edges_poly2 signTest_le).mpr ⟨hx, b, hy, not_lt.mp a⟩)
  · exact .inl ((edges_poly3 signTest_le).mpr ⟨c.1.le, h1, c.2.le, (not_le.mp b).le⟩)
  · exact .inl ((edges_poly5 signTest_le).mpr ⟨not_lt.mp fun h => c ⟨by linarith, h⟩, h1, hy⟩)
  · exact .inl ((edges_poly4 signTest_le).mpr ⟨hx, h1, not_lt.mp fun h => c ⟨h, by linarith⟩⟩)

theorem interior_polygon_region (x y : Rat) (k : Nat) (hk : 1 ≤ k ∧ k ≤ 5)
    (h : strictlyInPoly (poly k) (x, y)) : regionXY x y = k := by
  have hk : k = 1 ∨ k = 2 ∨ k = 3 ∨ k = 4 ∨ k = 5 := by omega
  unfold regionXY
  obtain h | h := h
  · obtain rfl | rfl | rfl | rfl | rfl := hk
    · exact if_pos ((edges_poly1 signTest_lt).mp h).2.1
    · obtain ⟨-, a, -, b⟩ := (edges_poly2 signTest_lt).mp h
      rw [if_neg (not_lt.mpr b.le), if_pos a.le]
    · obtain ⟨a, -, b, c⟩ := (edges_poly3 signTest_lt).mp h
      rw [C08.cascade_above c, if_pos ⟨a, b⟩]
    · obtain ⟨a, -, b⟩ := (edges_poly4 signTest_lt).mp h
      have c : 7/20 < x + y := by linarith
      rw [C08.cascade_above c, if_neg fun h => lt_asymm h.1 b, if_neg (by linarith)]
    · obtain ⟨a, -, b⟩ := (edges_poly5 signTest_lt).mp h
      have c : 7/20 < x + y := by linarith
      rw [C08.cascade_above c, if_neg fun h => lt_asymm h.2 a, if_pos (by linarith)]
  · -- the patches are drawn clockwise: no point is strictly left of all edges of one
    exfalso
    obtain rfl | rfl | rfl | rfl | rfl := hk
    · obtain ⟨a, b, c⟩ := (edges_poly1 signTest_gt).mp h
      linarith
    · obtain ⟨a, b, c, -⟩ := (edges_poly2 signTest_gt).mp h
      linarith
    · obtain ⟨a, -, b, -⟩ := (edges_poly3 signTest_gt).mp h
      linarith
    · obtain ⟨a, b, c⟩ := (edges_poly4 signTest_gt).mp h
      linarith
    · obtain ⟨a, b, c⟩ := (edges_poly5 signTest_gt).mp h
      linarith

theorem regionXY_in_1_5 (x y : Rat) : 1 ≤ regionXY x y ∧ regionXY x y ≤ 5 := C08.cascade_in_1_5 rfl

theorem polygons_cover_simplex (x y : Rat) (hx : 0 ≤ x) (hy : 0 ≤ y) (h1 : x + y ≤ 1) :
    ∃ k, 1 ≤ k ∧ k ≤ 5 ∧ inPoly (poly k) (x, y) :=
  ⟨regionXY x y, (regionXY_in_1_5 x y).1, (regionXY_in_1_5 x y).2, region_in_polygon x y hx hy h1⟩

theorem regionDef_eq_regionXY (np nn N : Nat) (hN : 0 < N) :
    Spec.regionDef np nn N = regionXY ((np : Rat) / N) ((nn : Rat) / N) :=
  C08.regionDef_xy np nn N hN

/-- the two Uversky patches cover the unit square of (mean net charge, hydropathy) -/
theorem uversky_polygons_cover (x y : Rat) (hx : 0 ≤ x) (hx1 : x ≤ 1) (hy : 0 ≤ y) (hy1 : y ≤ 1) :
    inPoly ((Spec.uverskyPolygons.getD 0 []).map toPt) (x, y) ∨ inPoly ((Spec.uverskyPolygons.getD 1 []).map toPt) (x, y) := by
  -- the patches meet along the edge (0, 413/1000) → (193/250, 1); both traverse it in this direction
  rcases le_total (587/1000 * x) (193/250 * (y - 413/1000)) with h | h
  · left; right
    rw [uversky0, edges3]
    simp only [List.forall_mem_cons, List.not_mem_nil, false_imp_iff, implies_true, and_true, cross]
    exact ⟨(signTest_ge.edge (587/1000)).mpr hx, (signTest_ge.edge 1).mpr h,
      (signTest_ge.edge (193/250)).mpr hy1⟩
  · right; left
    rw [uversky1, edges5]
    simp only [List.forall_mem_cons, List.not_mem_nil, false_imp_iff, implies_true, and_true, cross]
    exact ⟨(signTest_le.edge (413/1000)).mpr hx, (signTest_le.edge 1).mpr h,
      (signTest_le.edge (57/250)).mpr hy1, (signTest_le.edge 1).mpr hx1, (signTest_le.edge 1).mpr hy⟩

end Cider.C19
