/-
  C07 — SCD equals the Sawle–Ghosh sequence charge decoration.
-/
import Cider.Real.Scd
import Cider.Lemmas.Counts

namespace Cider.C07
open Cider Finset

/-- the code's double loop (m = 2..N, n = 1..m−1, term q_m q_n (m−n)^½, divided by N) is the
    Sawle–Ghosh pair sum (1/N) Σ_{m>n} q_m q_n √(m−n) — every pattern, every length -/
theorem scdLoop_eq_spec (p : Pattern) : scdLoop p = scdDef p := by
  rw [scdLoop_eq_sum, scdDef, sum_range'_eq_Ico]
  congr 1
  rcases Nat.eq_zero_or_pos p.length with hN | hN
  · simp [hN]
  · rw [show 2 + (p.length - 1) = p.length + 1 by omega,
      Finset.sum_eq_sum_Ico_succ_bot (by omega : 1 < p.length + 1) (fun m => ∑ n ∈ Ico 1 m, _),
      Finset.Ico_self, Finset.sum_empty, zero_add]
    refine Finset.sum_congr rfl fun m hm => ?_
    rw [sum_range'_eq_Ico, show 1 + (m - 1) = m by have := (Finset.mem_Ico.mp hm).1; omega]

/-- … and equals (1/N) Σ_{d=1}^{N−1} lag_d·√d with the exact integer lag sums lag_d = Σ_i q_i q_{i+d}
    of the executable model — the value the correspondence compares `get_SCD()` with -/
theorem scd_eq_lagform (p : Pattern) : scdLoop p = scdLag p := by
  rw [scdLoop_eq_spec, scdDef_eq_lag]

/-- fewer than two charged residues ⇒ SCD = 0 -/
theorem scd_zero_of_few_charges (p : Pattern) (h : countPos p + countNeg p ≤ 1) : scdLoop p = 0 := by
  have hc : p.countP (fun x => decide (x ≠ 0)) ≤ 1 := by rw [countP_ne_zero]; exact h
  have hz := pair_zero_of_few p hc
  rw [scdLoop_eq_spec]
  unfold scdDef
  have : (∑ m ∈ Ico 1 (p.length + 1), ∑ n ∈ Ico 1 m,
      qAt p (m - 1) * qAt p (n - 1) * Real.sqrt (((m - n : Nat) : ℝ))) = 0 := by
    apply Finset.sum_eq_zero
    intro m hm
    apply Finset.sum_eq_zero
    intro n hn
    have h1 := (Finset.mem_Ico.mp hn)
    have := hz (n - 1) (m - 1) (by omega)
    unfold qAt
    have e : ((p.getD (m - 1) 0 : Int) : ℝ) * ((p.getD (n - 1) 0 : Int) : ℝ) = 0 := by
      rw [mul_comm]; exact_mod_cast this
    rw [e, zero_mul]
  rw [this, zero_div]

/-- SCD depends on the sequence only through its charge pattern (K,R ↦ +1; D,E ↦ −1; others 0) -/
theorem scd_pattern_only (T : Tables) (s t : Seq)
    (h : List.Forall₂ (fun a b => T.charge a = T.charge b) s t) :
    scdLoop (patternOf T s) = scdLoop (patternOf T t) := by
  rw [patternOf_congr T h]

/-- SCD is unchanged by reversing the sequence … -/
theorem scd_reverse (p : Pattern) : scdLoop p.reverse = scdLoop p := by
  rw [scd_eq_lagform, scd_eq_lagform]
  unfold scdLag
  simp only [List.length_reverse, lagSum_reverse]

/-- … and by exchanging positive and negative charges -/
theorem scd_negate (p : Pattern) : scdLoop (p.map (fun x => -x)) = scdLoop p := by
  rw [scd_eq_lagform, scd_eq_lagform]
  unfold scdLag
  simp only [List.length_map, lagSum_negate]

/-! non-vacuity: lag sums of the KEEEEK pattern -/
example : (List.range 6).tail.map (lagSum [1, -1, -1, -1, -1, 1]) = [1, 0, -1, -2, 1] := by decide

end Cider.C07
