/-
  C02 — delta equals the Das–Pappu blob-averaged charge-asymmetry variance.
-/
import Cider.Lemmas.Blobs
import Cider.Lemmas.Counts
import Cider.Model.TablesSpec

namespace Cider.C02
open Cider

theorem blobs_cons_of_le (w : Nat) (x : Int) (xs : Pattern) (h : w ≤ xs.length + 1) :
    blobs w (x :: xs) = (x :: xs).take w :: blobs w xs := by
  unfold blobs
  have e : (x :: xs).length + 1 - w = (xs.length + 1 - w) + 1 := by simp; omega
  rw [e, List.range_succ_eq_map, List.map_cons, List.map_map]
  rfl

theorem blobs_eq_windows' (w : Nat) (p : Pattern) : blobs w p = Spec.windows w p := by
  induction p with
  | nil =>
    unfold Spec.windows
    split_ifs with h0
    · subst h0; rfl
    · exact wins_of_lt w _ (Nat.pos_of_ne_zero h0)
  | cons x xs ih =>
    unfold Spec.windows
    split_ifs with h
    · rw [blobs_cons_of_le w x xs h, ih]
    · exact wins_of_lt w _ (by rw [List.length_cons]; omega)

/-- the index-built blobs of the code are exactly "every sliding window of that size" -/
theorem blobs_eq_windows (w : Nat) (hw : 0 < w) (p : Pattern) : blobs w p = Spec.windows w p :=
  blobs_eq_windows' w p

/-- there are N − w + 1 blobs (none when w > N) … -/
theorem blob_count (w : Nat) (p : Pattern) : (blobs w p).length = p.length + 1 - w :=
  wins_length w p

/-- … and the last one ends at the last residue -/
theorem blobs_last (w : Nat) (p : Pattern) (hw : 0 < w) (h : w ≤ p.length) :
    (blobs w p).getLast? = some (p.drop (p.length - w)) := by
  rw [blobs, show p.length + 1 - w = (p.length - w) + 1 by omega, List.range_succ, List.map_append,
    List.getLast?_append, List.map_singleton, List.getLast?_singleton, Option.some_or,
    List.take_of_length_le (by rw [List.length_drop]; omega)]

/-- the code's `bncpr**2 / bfcr` with its zero guard is sigma = (f+ − f−)²/(f+ + f−), 0 when uncharged -/
theorem sigma_eq_def (p : Pattern) : sigma p = Spec.sigmaDef p := by
  unfold sigma sigmaOf Spec.sigmaDef
  simp only []
  split
  · rfl
  · rw [sub_div, add_div]

theorem blob_sigma_eq_def (w : Nat) (p b : Pattern) (hb : b ∈ blobs w p) :
    sigmaOf (countPos b) (countNeg b) w = Spec.sigmaDef b := by
  rw [← sigma_eq_def, sigma, mem_wins_length w p b hb]

theorem deltaForm_eq_deltaW (w : Nat) (p : Pattern) : deltaForm w p = Spec.deltaW w p := by
  rw [deltaForm_sum, Spec.deltaW, ← blobs_eq_windows' w p]
  split_ifs with he
  · rw [he, List.map_nil, List.sum_nil, zero_div]
  · rw [sigma_eq_def, List.sum_eq_foldr]
    congr 2
    exact List.map_congr_left fun b hb => by rw [blob_sigma_eq_def w p b hb]

/-- the accumulation loop of `deltaForm` computes the mean squared deviation of the blob sigmas
    from the sequence sigma — for every pattern and every blob size -/
theorem deltaForm_eq_spec (w : Nat) (hw : 0 < w) (p : Pattern) : deltaForm w p = Spec.deltaW w p :=
  deltaForm_eq_deltaW w p

/-- a blob size longer than the sequence contributes 0 -/
theorem deltaForm_short (w : Nat) (p : Pattern) (h : p.length < w) : deltaForm w p = 0 := by
  rw [deltaForm, show blobs w p = [] from wins_of_lt w p h]; rfl

/-- get_delta's model = mean over blob sizes 5 and 6 of that variance -/
theorem delta_eq_spec (p : Pattern) : delta p = Spec.delta p := by
  unfold delta Spec.delta
  rw [deltaForm_eq_spec 5 (by norm_num), deltaForm_eq_spec 6 (by norm_num)]

theorem deltaW_nonneg (w : Nat) (p : Pattern) : 0 ≤ Spec.deltaW w p :=
  deltaForm_eq_deltaW w p ▸ deltaForm_nonneg w p

theorem delta_nonneg (p : Pattern) : 0 ≤ delta p := Cider.delta_nonneg p

/-- K,R count as +1, D,E as −1, everything else as 0 in the published table -/
theorem published_charge_classes :
    ∀ a, Spec.charge a = if a = AA.K ∨ a = AA.R then 1 else if a = AA.D ∨ a = AA.E then -1 else 0 := by
  intro a; cases a <;> rfl

/-- delta sees a sequence only through its charge pattern: residues of the same charge class are
    interchangeable at every position -/
theorem delta_depends_on_charge_classes_only (T : Tables) (s t : Seq)
    (h : List.Forall₂ (fun a b => T.charge a = T.charge b) s t) : seqDelta T s = seqDelta T t := by
  rw [seqDelta, patternOf_congr T h]; rfl

/-! non-vacuity -/
example : delta [1, -1, -1, -1, -1, 1] = 1568 / 50625 := by decide +kernel
example : Spec.delta [1, -1, -1, -1, -1, 1] = 1568 / 50625 := by decide +kernel
example : deltaForm 6 [1, 0, -1] = 0 := by decide +kernel

end Cider.C02
