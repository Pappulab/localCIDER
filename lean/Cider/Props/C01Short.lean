/-
  C01/C02 (shortest inputs) — for EVERY sequence of at most five residues delta is 0, delta-max is 0
  and kappa is −1: a blob size longer than the sequence contributes 0 and the single blob of a
  five-residue sequence is the sequence itself.  (The "undefined" case of the property, stated for
  all patterns, not sampled.)
-/
import Cider.Props.C01
import Cider.Props.C02
import Cider.Props.C03
namespace Cider.C01
open Cider

/-- trichotomy: the three counts of any integer pattern add up to its length -/
theorem pattern_counts_sum (p : Pattern) : countPos p + countNeg p + countNeut p = p.length :=
  countPos_add_countNeg_add_countNeut p

/-- the only blob of size N of an N-residue sequence is the sequence: no deviation -/
theorem deltaForm_whole (p : Pattern) : deltaForm p.length p = 0 :=
  deltaForm_eq_zero _ p fun b hb => by
    rw [show blobs p.length p = [p] from wins_self p, List.mem_singleton] at hb
    rw [hb]; rfl

theorem delta_short (p : Pattern) (h : p.length ≤ 5) : delta p = 0 := by
  unfold delta
  have h6 : deltaForm 6 p = 0 := C02.deltaForm_short 6 p (by omega)
  have h5 : deltaForm 5 p = 0 := by
    by_cases hl : p.length = 5
    · have := deltaForm_whole p; rw [hl] at this; exact this
    · exact C02.deltaForm_short 5 p (by omega)
  rw [h5, h6]; norm_num

/-- **every sequence of at most five residues has delta-max 0** -/
theorem dmax_short (p : Pattern) (h : p.length ≤ 5) : dmax p = 0 := by
  unfold dmax
  by_cases h0 : countPos p + countNeg p = 0
  · exact dmaxComp_of_uncharged h0 _
  · obtain ⟨c, hc, he, _⟩ := (dmaxComp_spec (countPos p) (countNeg p) (countNeut p) (by omega)).2
    rw [← he]
    apply delta_short
    have hcomp := C03.candidates_composition (countPos p) (countNeg p) (countNeut p) c hc
    have hlen := pattern_counts_sum c
    have hp3 := pattern_counts_sum p
    rw [hcomp.1, hcomp.2.1, hcomp.2.2] at hlen
    omega

/-- … and therefore kappa −1 -/
theorem kappa_short (p : Pattern) (h : p.length ≤ 5) : kappa p = -1 :=
  (kappa_neg_one_iff p).mpr (dmax_short p h)

/-- the same for real sequences, whatever the tables: at most five residues ⇒ get_kappa() = −1 -/
theorem kappa_short_seq (T : Tables) (s : Seq) (h : s.length ≤ 5) : kappa (patternOf T s) = -1 :=
  kappa_short _ (by rw [patternOf_length]; exact h)

end Cider.C01
