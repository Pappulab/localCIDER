/-
  C09 — pH-dependent charge follows Henderson–Hasselbalch; the pI bisection terminates and is sound.
  Cider.Model.PH at ℝ: the instance, the charge as a sum of per-residue terms (`term`, `hh`), the properties.
-/
import Cider.Model.PH
import Mathlib.Analysis.SpecialFunctions.Pow.Real
import Mathlib.Tactic.Linarith
import Mathlib.Tactic.Positivity
import Mathlib.Algebra.Order.BigOperators.Group.List

namespace Cider.C09
open Cider PH

noncomputable instance : RealLike ℝ where
  ofRat q := (q : ℝ)
  pow10 x := (10 : ℝ) ^ x
  ltB a b := decide (a < b)

theorem one_real : (one : ℝ) = 1 := Rat.cast_one
theorem zero_real : (zero : ℝ) = 0 := Rat.cast_zero
theorem ofRat_natCast (n : ℕ) : (RealLike.ofRat (n : ℚ) : ℝ) = n := Rat.cast_natCast n
theorem ltB_iff (a b : ℝ) : RealLike.ltB a b = true ↔ a < b := decide_eq_true_iff

/-- the titration curve: a base is protonated to `hh (pH − pKa)`, an acid deprotonated to `hh (pKa − pH)` -/
noncomputable def hh (u : ℝ) : ℝ := 1 / (1 + (10 : ℝ) ^ u)

theorem hh_pos (u : ℝ) : 0 < hh u := by unfold hh; positivity

theorem hh_le_one (u : ℝ) : hh u ≤ 1 :=
  (div_le_one (by positivity)).mpr (le_add_of_nonneg_right (by positivity))

theorem hh_antitone : Antitone hh := fun u v h =>
  one_div_le_one_div_of_le (by positivity)
    (by linarith [Real.rpow_le_rpow_of_exponent_le (by norm_num : (1 : ℝ) ≤ 10) h])

theorem hh_le_of_two_le {u : ℝ} (h : 2 ≤ u) : hh u ≤ 1 / 100 :=
  (hh_antitone h).trans (by unfold hh; norm_num)

/-- the Henderson–Hasselbalch term of one residue (0 when it does not titrate) -/
noncomputable def term (tt : Titration) (total : Bool) (pH : ℝ) (a : AA) : ℝ :=
  if tt.cls a = 1 then 1 / (1 + (10 : ℝ) ^ (pH - (tt.pKa a : ℝ)))
  else if tt.cls a = -1 then (if total then 1 else -1) / (1 + (10 : ℝ) ^ ((tt.pKa a : ℝ) - pH))
  else 0

def titratable (tt : Titration) (a : AA) : Bool := tt.cls a = 1 ∨ tt.cls a = -1

theorem term_cases (tt : Titration) (a : AA) :
    (tt.cls a = 1 ∧ titratable tt a = true ∧ ∀ total pH, term tt total pH a = hh (pH - tt.pKa a)) ∨
    (tt.cls a = -1 ∧ titratable tt a = true ∧
      ∀ pH, term tt true pH a = hh (tt.pKa a - pH) ∧ term tt false pH a = -hh (tt.pKa a - pH)) ∨
    (tt.cls a ≠ 1 ∧ tt.cls a ≠ -1 ∧ titratable tt a = false ∧ ∀ total pH, term tt total pH a = 0) := by
  unfold term titratable hh
  by_cases h1 : tt.cls a = 1
  · exact .inl ⟨h1, by simp [h1], fun _ _ => if_pos h1⟩
  · by_cases h2 : tt.cls a = -1
    · refine .inr (.inl ⟨h2, by simp [h2], fun pH => ?_⟩)
      rw [if_neg h1, if_pos h2, if_neg h1, if_pos h2, ← neg_div]
      exact ⟨rfl, rfl⟩
    · exact .inr (.inr ⟨h1, h2, by simp [h1, h2], fun _ _ => by rw [if_neg h1, if_neg h2]⟩)

/-- the single pass over the sequence computes the sum of the per-residue Henderson–Hasselbalch
    fractions (K,R,H positive; D,E,C,Y negative — whatever `tt` says) and counts the titratable residues -/
theorem charge_loop_eq_counts (tt : Titration) (total : Bool) (pH : ℝ) (s : Seq) :
    chargeLoop tt total pH s = ((s.map (term tt total pH)).sum, s.countP (titratable tt)) := by
  induction s using List.reverseRecOn with
  | nil => exact Prod.ext zero_real rfl
  | append_singleton l a ih =>
    unfold chargeLoop at ih ⊢
    rw [List.foldl_append, ih, List.map_append, List.sum_append, List.countP_append]
    simp only [List.foldl_cons, List.foldl_nil, List.map_cons, List.map_nil, List.sum_cons, List.sum_nil,
      add_zero, List.countP_singleton, hhPos, one_real]
    rcases term_cases tt a with ⟨h1, ht, e⟩ | ⟨h2, ht, e⟩ | ⟨h1, h2, ht, e⟩
    · rw [if_pos h1, ht, if_pos rfl, e]; rfl
    · rw [if_neg (by omega), if_pos h2, ht, if_pos rfl]
      cases total
      · rw [(e pH).2, if_neg Bool.false_ne_true, neg_div]; rfl
      · rw [(e pH).1, if_pos rfl]; rfl
    · rw [if_neg h1, if_neg h2, ht, e, if_neg Bool.false_ne_true, add_zero, add_zero]

theorem chargeAtPH_eq (tt : Titration) (total : Bool) (pH : ℝ) (s : Seq) :
    chargeAtPH tt total pH s = (s.map (term tt total pH)).sum := by
  unfold chargeAtPH; rw [charge_loop_eq_counts]

theorem ncprPH_eq (tt : Titration) (pH : ℝ) (s : Seq) :
    ncprPH tt pH s = (s.map (term tt false pH)).sum / (s.length : ℝ) := by
  unfold ncprPH; rw [chargeAtPH_eq, ofRat_natCast]

theorem fcrPH_eq (tt : Titration) (pH : ℝ) (s : Seq) :
    fcrPH tt pH s = (s.map (term tt true pH)).sum / (s.length : ℝ) := by
  unfold fcrPH; rw [chargeAtPH_eq, ofRat_natCast]

theorem term_net_antitone (tt : Titration) (a : AA) (p q : ℝ) (h : p ≤ q) : term tt false q a ≤ term tt false p a := by
  rcases term_cases tt a with ⟨_, _, e⟩ | ⟨_, _, e⟩ | ⟨_, _, _, e⟩
  · rw [e, e]; exact hh_antitone (by linarith)
  · rw [(e q).2, (e p).2]; exact neg_le_neg (hh_antitone (by linarith))
  · rw [e, e]

/-- **NCPR(pH) never increases with pH** — every sequence, every pair of pH values -/
theorem ncprPH_antitone (tt : Titration) (s : Seq) (p q : ℝ) (h : p ≤ q) :
    ncprPH tt q s ≤ ncprPH tt p s := by
  rw [ncprPH_eq, ncprPH_eq]
  exact div_le_div_of_nonneg_right (List.sum_le_sum fun a _ => term_net_antitone tt a p q h) (Nat.cast_nonneg _)

theorem term_abs (tt : Titration) (pH : ℝ) (a : AA) : |term tt false pH a| = term tt true pH a := by
  rcases term_cases tt a with ⟨_, _, e⟩ | ⟨_, _, e⟩ | ⟨_, _, _, e⟩
  · rw [e, e]; exact abs_of_pos (hh_pos _)
  · rw [(e pH).1, (e pH).2, abs_neg]; exact abs_of_pos (hh_pos _)
  · rw [e, e, abs_zero]

theorem term_total_le (tt : Titration) (pH : ℝ) (a : AA) :
    term tt true pH a ≤ if titratable tt a then 1 else 0 := by
  rcases term_cases tt a with ⟨_, ht, e⟩ | ⟨_, ht, e⟩ | ⟨_, _, ht, e⟩
  · rw [ht, e]; exact hh_le_one _
  · rw [ht, (e pH).1]; exact hh_le_one _
  · rw [ht, e]; exact le_refl _

theorem abs_sum_map_le {α : Type} (s : List α) (h : α → ℝ) : |(s.map h).sum| ≤ (s.map fun a => |h a|).sum :=
  (List.le_sum_of_subadditive (abs : ℝ → ℝ) abs_zero.le abs_add_le (s.map h)).trans_eq (by rw [List.map_map]; rfl)

theorem abs_ncprPH_le_fcrPH (tt : Titration) (s : Seq) (pH : ℝ) : |ncprPH tt pH s| ≤ fcrPH tt pH s := by
  rw [ncprPH_eq, fcrPH_eq, abs_div, Nat.abs_cast]
  refine div_le_div_of_nonneg_right ((abs_sum_map_le s _).trans_eq ?_) (Nat.cast_nonneg _)
  simp only [term_abs]

theorem fcrPH_nonneg (tt : Titration) (s : Seq) (pH : ℝ) : 0 ≤ fcrPH tt pH s :=
  (abs_nonneg _).trans (abs_ncprPH_le_fcrPH tt s pH)

theorem sum_le_count (tt : Titration) (h : AA → ℝ) (c : ℝ)
    (hb : ∀ a, h a ≤ if titratable tt a then c else 0) (s : Seq) :
    (s.map h).sum ≤ c * (s.countP (titratable tt) : ℝ) := by
  induction s with
  | nil => simp
  | cons a s ih =>
    have := hb a
    rw [List.map_cons, List.sum_cons, List.countP_cons]
    push_cast
    split_ifs at this ⊢ <;> linarith

theorem fcrPH_le_titratable_fraction (tt : Titration) (s : Seq) (pH : ℝ) :
    fcrPH tt pH s ≤ ((s.countP (titratable tt) : Nat) : ℝ) / (s.length : ℝ) := by
  rw [fcrPH_eq]
  refine div_le_div_of_nonneg_right ?_ (Nat.cast_nonneg _)
  exact (sum_le_count tt _ 1 (term_total_le tt pH) s).trans_eq (one_mul _)

/-- the expanding fraction adds the proline fraction -/
theorem ferPH_eq (tt : Titration) (s : Seq) (pH : ℝ) :
    ferPH tt pH s = fcrPH tt pH s + ((s.count AA.P : Nat) : ℝ) / (s.length : ℝ) := by
  unfold ferPH fcrPH
  rw [ofRat_natCast, ofRat_natCast, add_div]

theorem pH_rejected_iff (pH : ℝ) : pHRejected pH = true ↔ pH < 0 ∨ 14 < pH := by
  unfold pHRejected
  rw [Bool.or_eq_true, ltB_iff, ltB_iff, zero_real]
  simp only [RealLike.ofRat, Rat.cast_ofNat]

/-- progress measure of the bisection loop -/
def mu (st : PIState ℝ) : Nat := (11 - st.errorcount) * 20 - st.breakcount

theorem piEscape_spec (st : PIState ℝ) (hb : st.breakcount ≤ 19) (he : st.errorcount ≤ 10) :
    match piEscape st with
    | .inr r => r = .error .piNoConverge
    | .inl st' => st'.breakcount ≤ 19 ∧ st'.errorcount ≤ 10 ∧ mu st' < mu st := by
  unfold piEscape
  split_ifs with h20 h10
  · rfl
  all_goals dsimp only [mu]; omega

theorem piBisect_spec (f : ℝ → ℝ) (thr : ℝ) (st : PIState ℝ) :
    match piBisect f thr st with
    | .inr r => ∃ x, r = .ok x ∧ |f x| ≤ thr
    | .inl st' => st'.breakcount = st.breakcount ∧ st'.errorcount = st.errorcount := by
  unfold piBisect
  simp only [ltB_iff]
  split_ifs with h1 h2
  · exact ⟨rfl, rfl⟩
  · exact ⟨rfl, rfl⟩
  · exact ⟨_, rfl, abs_le.mpr ⟨le_of_not_gt h2, le_of_not_gt h1⟩⟩

theorem piStep_progress (f : ℝ → ℝ) (thr : ℝ) (st : PIState ℝ) (hb : st.breakcount ≤ 19) (he : st.errorcount ≤ 10) :
    match piStep f thr st with
    | .inr r => r = .error .piNoConverge ∨ ∃ x, r = .ok x ∧ |f x| ≤ thr
    | .inl st' => st'.breakcount ≤ 19 ∧ st'.errorcount ≤ 10 ∧ mu st' < mu st := by
  have h1 := piEscape_spec st hb he
  unfold piStep
  generalize piEscape st = e at h1 ⊢
  cases e with
  | inr r => exact Or.inl h1
  | inl st1 =>
    have h2 := piBisect_spec f thr st1
    dsimp only at h1 ⊢
    generalize piBisect f thr st1 = b at h2 ⊢
    cases b with
    | inr r => exact Or.inr h2
    | inl st2 =>
      have hmu : mu st2 = mu st1 := by unfold mu; rw [h2.1, h2.2]
      exact ⟨h2.1 ▸ h1.1, h2.2 ▸ h1.2.1, hmu.trans_lt h1.2.2⟩

theorem piLoop_ne_none (f : ℝ → ℝ) (thr : ℝ) (fuel : Nat) (st : PIState ℝ)
    (hb : st.breakcount ≤ 19) (he : st.errorcount ≤ 10) (hm : mu st < fuel) : piLoop f thr fuel st ≠ none := by
  induction fuel generalizing st with
  | zero => omega
  | succ n ih =>
    have hp := piStep_progress f thr st hb he
    unfold piLoop
    generalize piStep f thr st = x at hp ⊢
    cases x with
    | inr r => exact Option.some_ne_none r
    | inl st' => exact ih st' hp.1 hp.2.1 (by omega)

/-- **get_isoelectric_point terminates for every sequence**: whatever the charge function, the loop
    returns or raises within 221 iterations (the model's fuel of 230 is never exhausted) -/
theorem pi_fuel_suffices (f : ℝ → ℝ) (thr : ℝ) : piLoop f thr 230 piInit ≠ none :=
  piLoop_ne_none f thr 230 piInit (Nat.zero_le _) (Nat.zero_le _) (by decide)

theorem piLoop_of_inv {f : ℝ → ℝ} {thr : ℝ} (Inv : PIState ℝ → Prop) (Q : Except Err ℝ → Prop)
    (hstep : ∀ st, Inv st → match piStep f thr st with | .inl st' => Inv st' | .inr r => Q r)
    (fuel : Nat) (st : PIState ℝ) (h : Inv st) (r : Except Err ℝ) (hr : piLoop f thr fuel st = some r) : Q r := by
  induction fuel generalizing st with
  | zero => cases hr
  | succ n ih =>
    have hs := hstep st h
    unfold piLoop at hr
    generalize piStep f thr st = x at hs hr
    cases x with
    | inl st' => exact ih st' hs hr
    | inr r' => exact Option.some.inj hr ▸ hs

/-- any returned pH has mean charge per titratable residue within the threshold of zero
    (from any state reachable by the loop) -/
theorem pi_result_sound (f : ℝ → ℝ) (thr : ℝ) (fuel : Nat) (st : PIState ℝ)
    (hb : st.breakcount ≤ 19) (he : st.errorcount ≤ 10) (x : ℝ)
    (h : piLoop f thr fuel st = some (.ok x)) : |f x| ≤ thr := by
  have := piLoop_of_inv (fun st => st.breakcount ≤ 19 ∧ st.errorcount ≤ 10)
    (fun r => r = .error .piNoConverge ∨ ∃ y, r = .ok y ∧ |f y| ≤ thr)
    (fun st hst => by
      have hp := piStep_progress f thr st hst.1 hst.2
      generalize piStep f thr st = y at hp ⊢
      cases y with
      | inl st' => exact ⟨hp.1, hp.2.1⟩
      | inr r => exact hp) fuel st ⟨hb, he⟩ _ h
  rcases this with h | ⟨y, hy, hle⟩
  · cases h
  · cases hy; exact hle

/-- `x / 0 = 0` covers the chain with nothing titratable -/
theorem chargeNormalized_eq (tt : Titration) (pH : ℝ) (s : Seq) :
    chargeNormalized tt pH s = (s.map (term tt false pH)).sum / (s.countP (titratable tt) : ℝ) := by
  unfold chargeNormalized
  rw [charge_loop_eq_counts]
  dsimp only
  split_ifs with h0
  · rw [h0, Nat.cast_zero, div_zero, zero_real]
  · rw [ofRat_natCast]

/-- with nothing titratable the normalised charge is 0 and 7.0 is returned at the first iteration -/
theorem pi_no_titratable (tt : Titration) (s : Seq) (h : ∀ a ∈ s, titratable tt a = false) :
    (isoelectricPoint tt s : Option (Except Err ℝ)) = some (.ok 7) := by
  have hf : ∀ pH : ℝ, chargeNormalized tt pH s = 0 := fun pH => by
    rw [chargeNormalized_eq, List.countP_eq_zero.mpr (fun a ha => by simp [h a ha]), Nat.cast_zero, div_zero]
  unfold isoelectricPoint piLoop piStep
  rw [show piEscape (piInit : PIState ℝ) = .inl { piInit with breakcount := 1 } from rfl]
  unfold piBisect
  simp only [hf, ltB_iff]
  rw [if_neg (by norm_num [RealLike.ofRat]), if_neg (by norm_num [RealLike.ofRat])]
  norm_num [piInit, RealLike.ofRat]

end Cider.C09
