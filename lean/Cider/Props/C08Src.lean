/-
  Cider.Props.C08Src — source-text tie for C08: `Sequence.phasePlotRegion` as `tools/pyexpr2lean.py` translates it
  from the live SOURCE on every run (Gen/Decisions.lean) agrees, for ALL rational arguments, with the
  hand-written model the C08 theorems are about.  A changed threshold, comparison direction, branch
  order or returned value in the source breaks a proof here.
-/
import Cider.Gen.Decisions
import Cider.Model.SeqParams
namespace Cider.C08Src
open Cider

/-- forget which error / view region numbers as rationals -/
def toGen : Except Err Nat → Except Unit Rat
  | .ok n => .ok (n : Rat)
  | .error _ => .error ()

theorem phasePlotRegion_eq (fcr ncpr fp fm : Rat) :
    Gen.phasePlotRegion fcr ncpr fp fm = toGen (regionCode fcr ncpr fp fm) := by
  unfold regionCode
  simp only [apply_ite toGen]
  -- the same nest of `if`s: `>`, `≥` and `((n : Nat) : Rat)` unfold
  rfl

end Cider.C08Src
