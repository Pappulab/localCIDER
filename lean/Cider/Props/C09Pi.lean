/-
  C09 (second part) — `get_isoelectric_point()` never raises.

  Part A is generic: for ANY charge function `f` that is antitone, has a point `r ∈ [0, 24]` with
  `|f r| ≤ thr/2` and varies by at most `thr/2` within `1/256` of `r`, the bisection with bracket
  widening returns a pH (it never reaches its "PLEASE report this error" exit and never runs out
  of fuel).  Part B shows that the normalised Henderson–Hasselbalch charge of EVERY sequence is
  such a function, whenever the basic pKa values are ≤ 13 and the acidic ones ≥ 2 (checked for the
  published EMBOSS table and for the table regenerated from the live code).
-/
import Cider.Props.C09
import Cider.Props.C09Tie
import Mathlib.Tactic.Ring
import Mathlib.Tactic.NormNum

namespace Cider.C09
open Cider PH

/-! ### Part A: the loop invariant -/

/-- invariant between two trips of the `while True` loop -/
def PiInv (thr r : ℝ) (st : PIState ℝ) : Prop :=
  st.lo ≤ r ∧ st.lo ≤ st.hi ∧ st.hi - st.lo ≤ 14 / 2 ^ st.breakcount ∧ st.breakcount ≤ 19 ∧ st.errorcount ≤ 10 ∧
  ((r ≤ st.hi ∧ st.breakcount ≤ 11) ∨
   (st.hi < r ∧ st.hi = 14 + (st.errorcount : ℝ) ∧ ((st.breakcount = 0 ∧ st.errorcount = 0) ∨ thr < st.last)))

/-- invariant between the escape clause and the bisection step of one trip -/
def PiMid (r : ℝ) (st : PIState ℝ) : Prop :=
  st.lo ≤ r ∧ st.lo ≤ st.hi ∧ st.hi - st.lo ≤ 28 / 2 ^ st.breakcount ∧ st.breakcount ≤ 19 ∧ st.errorcount ≤ 10 ∧
  ((r ≤ st.hi ∧ st.breakcount ≤ 12) ∨ (st.hi < r ∧ st.hi = 14 + (st.errorcount : ℝ)))

theorem piInit_inv (thr r : ℝ) (h0 : 0 ≤ r) : PiInv thr r (piInit : PIState ℝ) := by
  unfold PiInv piInit
  simp only [RealLike.ofRat, Rat.cast_zero, Rat.cast_ofNat]
  refine ⟨h0, by norm_num, by norm_num, by norm_num, by norm_num, ?_⟩
  rcases le_or_gt r 14 with h | h
  · exact .inl ⟨h, by norm_num⟩
  · exact .inr ⟨h, by norm_num, .inl ⟨trivial, trivial⟩⟩

theorem piEscape_inv (thr r : ℝ) (hthr : 0 < thr) (hr : r ≤ 24) (st : PIState ℝ) (h : PiInv thr r st) :
    ∃ st1, piEscape st = .inl st1 ∧ PiMid r st1 := by
  obtain ⟨hlo, hlh, hw, hb, he, hd⟩ := h
  unfold piEscape
  by_cases h20 : st.breakcount + 1 = 20
  · -- the 20th trip: breakcount 19 > 11, so by the invariant `r` is above the bracket and the last charge
    -- was > thr > 0, which moves `hi` up; `hi = 14 + errorcount < r ≤ 24` rules out errorcount = 10
    rcases hd with ⟨_, hb11⟩ | ⟨hlt, hhi, hlast⟩
    · omega
    have hlast' : thr < st.last := hlast.resolve_left (by omega)
    have herr : st.errorcount ≠ 10 := fun h10 => by
      have := hlt.trans_le hr
      rw [hhi, h10] at this
      norm_num at this
    have hw14 : st.hi - st.lo ≤ 14 := hw.trans (div_le_self (by norm_num) (one_le_pow₀ (by norm_num)))
    rw [if_pos h20, if_neg herr, if_pos ((ltB_iff _ _).mpr (zero_real ▸ hthr.trans hlast')), one_real]
    refine ⟨_, rfl, hlo, hlh.trans (le_add_of_nonneg_right zero_le_one), ?_, Nat.zero_le _, ?_, ?_⟩
    · dsimp only; rw [pow_zero, div_one]; linarith
    · exact Nat.lt_of_le_of_ne he herr
    · dsimp only
      rcases le_or_gt r (st.hi + 1) with hbr | hbr
      · exact .inl ⟨hbr, by norm_num⟩
      · exact .inr ⟨hbr, by rw [hhi, Nat.cast_succ, add_assoc]⟩
  · rw [if_neg h20]
    refine ⟨_, rfl, hlo, hlh, hw.trans_eq (by dsimp only; ring), by dsimp only; omega, he, ?_⟩
    rcases hd with ⟨hbr, hb11⟩ | ⟨hlt, hhi, _⟩
    · exact .inl ⟨hbr, Nat.succ_le_succ hb11⟩
    · exact .inr ⟨hlt, hhi⟩

theorem mid_bracket {lo hi mid w : ℝ} (hmid : mid = (hi + lo) / 2) (hlh : lo ≤ hi) (hw : hi - lo ≤ 2 * w) :
    lo ≤ mid ∧ mid ≤ hi ∧ hi - mid ≤ w ∧ mid - lo ≤ w ∧ ∀ r, lo ≤ r → r ≤ hi → |mid - r| ≤ w :=
  ⟨by linarith, by linarith, by linarith, by linarith, fun r h1 h2 => abs_le.mpr ⟨by linarith, by linarith⟩⟩

theorem side_of_antitone {f : ℝ → ℝ} {thr r : ℝ} (hthr : 0 < thr) (hanti : Antitone f)
    (hfr : |f r| ≤ thr / 2) (x : ℝ) : (thr < f x → x < r) ∧ (f x < -thr → r < x) := by
  have hfr' := abs_le.mp hfr
  exact ⟨fun h => lt_of_not_ge fun hc => by linarith [hanti hc],
    fun h => lt_of_not_ge fun hc => by linarith [hanti hc]⟩

theorem piBisect_inv (f : ℝ → ℝ) (thr r : ℝ) (hthr : 0 < thr) (hanti : Antitone f)
    (hfr : |f r| ≤ thr / 2) (hmod : ∀ x, |x - r| ≤ 1 / 256 → |f x - f r| ≤ thr / 2)
    (st1 : PIState ℝ) (h : PiMid r st1) :
    (∃ x, piBisect f thr st1 = .inr (.ok x)) ∨ (∃ st2, piBisect f thr st1 = .inl st2 ∧ PiInv thr r st2) := by
  obtain ⟨hlo, hlh, hw, hb, he, hd⟩ := h
  unfold piBisect
  simp only [ltB_iff]
  generalize hmid : (RealLike.ofRat (1 / 2) : ℝ) * (st1.hi + st1.lo) = mid
  replace hmid : mid = (st1.hi + st1.lo) / 2 := by rw [← hmid]; simp only [RealLike.ofRat]; push_cast; ring
  obtain ⟨hm1, hm2, hm3, hm4, hm5⟩ := mid_bracket hmid hlh
    (hw.trans_eq (by ring : (28 : ℝ) / 2 ^ st1.breakcount = 2 * (14 / 2 ^ st1.breakcount)))
  -- with `r` in the bracket, a step that goes on has `breakcount ≤ 11`: at 12 the bracket is so small
  -- that `mid` is within 1/256 of `r`, which puts the charge at `mid` within the threshold
  have hbc : r ≤ st1.hi → st1.breakcount ≤ 12 → ¬ |f mid| ≤ thr → st1.breakcount ≤ 11 := by
    intro hbr hb12 hf
    by_contra hc
    rw [Nat.le_antisymm hb12 (Nat.lt_of_not_le hc)] at hm5
    have := abs_add_le (f mid - f r) (f r)
    rw [sub_add_cancel] at this
    exact hf (this.trans
      ((add_le_add (hmod _ ((hm5 r hlo hbr).trans (by norm_num))) hfr).trans_eq (add_halves thr)))
  obtain ⟨hs1, hs2⟩ := side_of_antitone hthr hanti hfr mid
  by_cases h1 : thr < f mid
  · rw [if_pos h1]
    refine .inr ⟨_, rfl, (hs1 h1).le, hm2, hm3, hb, he, ?_⟩
    rcases hd with ⟨hbr, hb12⟩ | ⟨hlt, hhi⟩
    · exact .inl ⟨hbr, hbc hbr hb12 fun h => h1.not_ge ((le_abs_self _).trans h)⟩
    · exact .inr ⟨hlt, hhi, .inr h1⟩
  · rw [if_neg h1]
    by_cases h2 : f mid < -thr
    · rw [if_pos h2]
      refine .inr ⟨_, rfl, hlo, hm1, hm4, hb, he, ?_⟩
      rcases hd with ⟨hbr, hb12⟩ | ⟨hlt, hhi⟩
      · exact .inl ⟨(hs2 h2).le, hbc hbr hb12 fun h => h2.not_ge (abs_le.mp h).1⟩
      · exact absurd (hlt.trans (hs2 h2)) hm2.not_gt
    · rw [if_neg h2]
      exact .inl ⟨_, rfl⟩

theorem piStep_inv (f : ℝ → ℝ) (thr r : ℝ) (hthr : 0 < thr) (hr : r ≤ 24) (hanti : Antitone f)
    (hfr : |f r| ≤ thr / 2) (hmod : ∀ x, |x - r| ≤ 1 / 256 → |f x - f r| ≤ thr / 2)
    (st : PIState ℝ) (h : PiInv thr r st) :
    match piStep f thr st with
    | .inl st' => PiInv thr r st'
    | .inr res => ∃ x, res = .ok x := by
  obtain ⟨st1, he1, hm1⟩ := piEscape_inv thr r hthr hr st h
  unfold piStep
  rw [he1]
  dsimp only
  rcases piBisect_inv f thr r hthr hanti hfr hmod st1 hm1 with ⟨x, hx⟩ | ⟨st2, hs, hi⟩
  · rw [hx]; exact ⟨x, rfl⟩
  · rw [hs]; exact hi

theorem piLoop_no_error (f : ℝ → ℝ) (thr r : ℝ) (hthr : 0 < thr) (hr : r ≤ 24) (hanti : Antitone f)
    (hfr : |f r| ≤ thr / 2) (hmod : ∀ x, |x - r| ≤ 1 / 256 → |f x - f r| ≤ thr / 2)
    (fuel : Nat) (st : PIState ℝ) (h : PiInv thr r st) (e : Err) :
    piLoop f thr fuel st ≠ some (.error e) := fun hres => by
  obtain ⟨x, hx⟩ := piLoop_of_inv (PiInv thr r) (fun res => ∃ x, res = .ok x)
    (piStep_inv f thr r hthr hr hanti hfr hmod) fuel st h _ hres
  cases hx

/-- **Part A**: for every antitone charge function with a near-neutral point in [0, 24] around which it
    varies slowly, the pI search returns a pH at which the charge is within the threshold of zero. -/
theorem pi_returns_of (f : ℝ → ℝ) (thr r : ℝ) (hthr : 0 < thr) (h0 : 0 ≤ r) (hr : r ≤ 24) (hanti : Antitone f)
    (hfr : |f r| ≤ thr / 2) (hmod : ∀ x, |x - r| ≤ 1 / 256 → |f x - f r| ≤ thr / 2) :
    ∃ x, piLoop f thr 230 piInit = some (.ok x) ∧ |f x| ≤ thr := by
  cases hres : piLoop f thr 230 (piInit : PIState ℝ) with
  | none => exact absurd hres (pi_fuel_suffices f thr)
  | some res =>
    cases res with
    | error e =>
      exact absurd hres (piLoop_no_error f thr r hthr hr hanti hfr hmod 230 piInit (piInit_inv thr r h0) e)
    | ok x => exact ⟨x, rfl, pi_result_sound f thr 230 piInit (Nat.zero_le _) (Nat.zero_le _) x hres⟩

/-! ### Part B: the hypotheses of Part A hold -/

/-- what Part B needs from the pKa table -/
def TableOK (tt : Titration) : Prop :=
  ∀ a, (tt.cls a = 1 → tt.pKa a ≤ 13) ∧ (tt.cls a = -1 → 2 ≤ tt.pKa a)

/-- no 256th power is computed: Bernoulli once, `(1 + 1/100)^16 ≥ 1 + 16/100`, leaves a 16th power -/
theorem ten_rpow_small : (10 : ℝ) ^ ((1 : ℝ) / 256) ≤ 1 + 1 / 100 := by
  refine le_of_pow_le_pow_left₀ (n := 16 * 16) (by norm_num) (by norm_num) ?_
  rw [← Real.rpow_natCast, ← Real.rpow_mul (by norm_num),
    show (1 : ℝ) / 256 * ((16 * 16 : ℕ) : ℝ) = 1 by norm_num, Real.rpow_one, pow_mul]
  calc (10 : ℝ) ≤ (1 + ((16 : ℕ) : ℝ) * (1 / 100)) ^ 16 := by norm_num
    _ ≤ ((1 + 1 / 100) ^ 16) ^ 16 := pow_le_pow_left₀ (by norm_num) (one_add_mul_le_pow (by norm_num) 16) 16

/-- the drop is `A(t−1) / ((1+A)(1+At)) ≤ c·A / (1+A)² ≤ c/4`, because `4A ≤ (1+A)²` -/
theorem logistic_step {A t c : ℝ} (hA : 0 < A) (ht1 : 1 ≤ t) (ht2 : t ≤ 1 + c) :
    1 / (1 + A) - 1 / (1 + A * t) ≤ c / 4 := by
  have hc : 0 ≤ c := by linarith
  have hAt : A ≤ A * t := le_mul_of_one_le_right hA.le ht1
  have h1 : 0 < 1 + A := add_pos one_pos hA
  have h2 : 0 < 1 + A * t := h1.trans_le (add_le_add_right hAt 1)
  have h3 : A * (t - 1) ≤ A * c := mul_le_mul_of_nonneg_left (sub_le_iff_le_add'.mpr ht2) hA.le
  have h4 : 4 * A ≤ (1 + A) * (1 + A * t) :=
    (by linarith only [sq_nonneg (1 - A)] : 4 * A ≤ (1 + A) * (1 + A)).trans
      (mul_le_mul_of_nonneg_left (add_le_add_right hAt 1) h1.le)
  rw [div_sub_div _ _ h1.ne' h2.ne', div_le_iff₀ (mul_pos h1 h2)]
  linarith only [h3, mul_le_mul_of_nonneg_left h4 hc]

/-- a logistic titration curve moves by at most 1/100 over a pH step of 1/256 -/
theorem sigma_mod (u v : ℝ) (h : |u - v| ≤ 1 / 256) :
    |1 / (1 + (10 : ℝ) ^ u) - 1 / (1 + (10 : ℝ) ^ v)| ≤ 1 / 100 := by
  wlog huv : u ≤ v generalizing u v
  · rw [abs_sub_comm]
    exact this v u (by rwa [abs_sub_comm]) (le_of_not_ge huv)
  have h10 : (1 : ℝ) ≤ 10 := by norm_num
  have hv : (10 : ℝ) ^ v = 10 ^ u * 10 ^ (v - u) := by rw [← Real.rpow_add (by norm_num), add_sub_cancel]
  show |hh u - hh v| ≤ 1 / 100
  rw [abs_of_nonneg (sub_nonneg.mpr (hh_antitone huv))]
  unfold hh
  rw [hv]
  refine (logistic_step (Real.rpow_pos_of_pos (by norm_num) u) (Real.one_le_rpow h10 (sub_nonneg.mpr huv))
    ((Real.rpow_le_rpow_of_exponent_le h10 ?_).trans ten_rpow_small)).trans (by norm_num)
  rw [abs_sub_comm] at h
  exact (le_abs_self _).trans h

theorem term_mod (tt : Titration) (a : AA) (x y : ℝ) (h : |x - y| ≤ 1 / 256) :
    |term tt false x a - term tt false y a| ≤ if titratable tt a then 1 / 100 else 0 := by
  rcases term_cases tt a with ⟨_, ht, e⟩ | ⟨_, ht, e⟩ | ⟨_, _, ht, e⟩
  · rw [ht, e, e]
    exact sigma_mod _ _ (by rwa [sub_sub_sub_cancel_right])
  · rw [ht, (e x).2, (e y).2, neg_sub_neg]
    exact sigma_mod _ _ (by rwa [sub_sub_sub_cancel_left])
  · rw [ht, e, e, sub_zero, abs_zero]
    exact le_refl _

/-- two pH units beyond every pKa of its kind: acids (≥ 2) below pH 0, bases (≤ 13) above pH 15 -/
theorem term_far (tt : Titration) (hok : TableOK tt) (a : AA) :
    (∀ pH : ℝ, pH ≤ 0 → -(term tt false pH a) ≤ if titratable tt a then 1 / 100 else 0) ∧
    (∀ pH : ℝ, 15 ≤ pH → term tt false pH a ≤ if titratable tt a then 1 / 100 else 0) := by
  rcases term_cases tt a with ⟨h1, ht, e⟩ | ⟨h2, ht, e⟩ | ⟨_, _, ht, e⟩
  · have hp : (tt.pKa a : ℝ) ≤ 13 := by exact_mod_cast (hok a).1 h1
    simp only [ht, ↓reduceIte, e]
    exact ⟨fun pH _ => by linarith [hh_pos (pH - tt.pKa a)], fun pH h => hh_le_of_two_le (by linarith)⟩
  · have hp : (2 : ℝ) ≤ tt.pKa a := by exact_mod_cast (hok a).2 h2
    simp only [ht, ↓reduceIte, (e _).2, neg_neg]
    exact ⟨fun pH h => hh_le_of_two_le (by linarith), fun pH _ => by linarith [hh_pos (tt.pKa a - pH)]⟩
  · simp only [ht, e, neg_zero]
    exact ⟨fun _ _ => le_rfl, fun _ _ => le_rfl⟩

theorem sum_map_sub {α : Type} (s : List α) (f g : α → ℝ) :
    (s.map fun a => f a - g a).sum = (s.map f).sum - (s.map g).sum := by
  simp only [sub_eq_add_neg, List.sum_map_add, List.sum_neg, List.map_map, Function.comp_def]

theorem chargeNormalized_antitone (tt : Titration) (s : Seq) : Antitone (fun pH : ℝ => chargeNormalized tt pH s) := by
  intro p q hpq
  simp only [chargeNormalized_eq]
  exact div_le_div_of_nonneg_right (List.sum_le_sum fun a _ => term_net_antitone tt a p q hpq) (Nat.cast_nonneg _)

theorem chargeNormalized_mod (tt : Titration) (s : Seq) (x y : ℝ) (h : |x - y| ≤ 1 / 256) :
    |chargeNormalized tt x s - chargeNormalized tt y s| ≤ 1 / 100 := by
  rw [chargeNormalized_eq, chargeNormalized_eq, ← sub_div, ← sum_map_sub, abs_div, Nat.abs_cast]
  exact div_le_of_le_mul₀ (Nat.cast_nonneg _) (by norm_num)
    ((abs_sum_map_le s _).trans (sum_le_count tt _ _ (fun a => term_mod tt a x y h) s))

/-- at pH 0 the acidic groups are (almost) fully protonated: the chain is not negative beyond 1/100 -/
theorem chargeNormalized_at_zero (tt : Titration) (hok : TableOK tt) (s : Seq) :
    -(1 / 100) ≤ chargeNormalized tt (0 : ℝ) s := by
  rw [chargeNormalized_eq, neg_le, ← neg_div, List.sum_neg, List.map_map]
  exact div_le_of_le_mul₀ (Nat.cast_nonneg _) (by norm_num)
    (sum_le_count tt _ _ (fun a => (term_far tt hok a).1 0 le_rfl) s)

/-- at pH 24 the basic groups are (almost) fully deprotonated: the chain is not positive beyond 1/100 -/
theorem chargeNormalized_at_24 (tt : Titration) (hok : TableOK tt) (s : Seq) :
    chargeNormalized tt (24 : ℝ) s ≤ 1 / 100 := by
  rw [chargeNormalized_eq]
  exact div_le_of_le_mul₀ (Nat.cast_nonneg _) (by norm_num)
    (sum_le_count tt _ _ (fun a => (term_far tt hok a).2 24 (by norm_num)) s)

/-- discrete intermediate value: the first term that is at most `ε` is also at least `-ε` -/
theorem exists_abs_le_of_steps (g : ℕ → ℝ) (ε : ℝ) (hε : 0 ≤ ε) (h0 : -ε ≤ g 0) (hstep : ∀ k, g k - g (k + 1) ≤ ε) :
    ∀ N, g N ≤ ε → ∃ k ≤ N, |g k| ≤ ε
  | 0, hN => ⟨0, le_rfl, abs_le.mpr ⟨h0, hN⟩⟩
  | N + 1, hN => by
    rcases le_or_gt (g N) ε with h | h
    · obtain ⟨k, hk, hg⟩ := exists_abs_le_of_steps g ε hε h0 hstep N h
      exact ⟨k, hk.trans N.le_succ, hg⟩
    · exact ⟨N + 1, le_rfl, abs_le.mpr ⟨by linarith [hstep N], hN⟩⟩

/-- a point of [0, 24] where the chain is neutral to within 1/100 (no continuity needed: walk a grid of
    step 1/256 from 0 until the charge first drops to 1/100 or below) -/
theorem exists_near_neutral (tt : Titration) (hok : TableOK tt) (s : Seq) :
    ∃ r : ℝ, 0 ≤ r ∧ r ≤ 24 ∧ |chargeNormalized tt r s| ≤ 1 / 100 := by
  obtain ⟨k, hk, hg⟩ := exists_abs_le_of_steps (fun k => chargeNormalized tt ((k : ℝ) / 256) s) (1 / 100)
    (by norm_num)
    (by rw [Nat.cast_zero, zero_div]; exact chargeNormalized_at_zero tt hok s)
    (fun k => (le_abs_self _).trans (chargeNormalized_mod tt s _ _
      (by rw [abs_sub_comm, ← sub_div, Nat.cast_succ, add_sub_cancel_left, abs_of_pos (by norm_num)])))
    (24 * 256) (by rw [show (((24 * 256 : ℕ)) : ℝ) / 256 = 24 by norm_num]; exact chargeNormalized_at_24 tt hok s)
  refine ⟨(k : ℝ) / 256, by positivity, ?_, hg⟩
  rw [div_le_iff₀ (by norm_num)]
  exact_mod_cast hk

/-- **get_isoelectric_point() returns for every sequence** (it never reaches its error exit), and the
    returned pH has mean charge per titratable residue within 0.02 of zero. -/
theorem pi_never_raises (tt : Titration) (hok : TableOK tt) (s : Seq) :
    ∃ x : ℝ, (isoelectricPoint tt s : Option (Except Err ℝ)) = some (.ok x) ∧ |chargeNormalized tt x s| ≤ 1 / 50 := by
  obtain ⟨r, hr0, hr24, hfr⟩ := exists_near_neutral tt hok s
  have hthr : (RealLike.ofRat (1 / 50) : ℝ) = 1 / 50 := by norm_num [RealLike.ofRat]
  have h100 : (1 : ℝ) / 100 = 1 / 50 / 2 := by norm_num
  unfold isoelectricPoint
  rw [hthr]
  exact pi_returns_of (fun pH : ℝ => chargeNormalized tt pH s) (1 / 50) r (by norm_num) hr0 hr24
    (chargeNormalized_antitone tt s) (hfr.trans_eq h100)
    (fun x hx => (chargeNormalized_mod tt s x r hx).trans_eq h100)

/-- the published EMBOSS table satisfies `TableOK` … -/
theorem spec_table_ok : TableOK (titrOf Spec.titrClass Spec.pKaND) := by
  intro a; cases a <;> decide +kernel

/-- … and so does the table regenerated from the live code on this run -/
theorem gen_table_ok : TableOK (titrOf Gen.titrClass Gen.pKaND) := by
  rw [gen_titration_classes.1, gen_pKa_eq_emboss.1, ← gen_pKa_eq_emboss.2.1]
  exact spec_table_ok

/-- **C09, last clause, for the published table and for the code's own**: `get_isoelectric_point()` returns a
    pH for EVERY sequence -/
theorem pi_never_raises_spec (s : Seq) :
    ∃ x : ℝ, (isoelectricPoint (titrOf Spec.titrClass Spec.pKaND) s : Option (Except Err ℝ)) = some (.ok x) ∧
      |chargeNormalized (titrOf Spec.titrClass Spec.pKaND) x s| ≤ 1 / 50 :=
  pi_never_raises _ spec_table_ok s

theorem pi_never_raises_gen (s : Seq) :
    ∃ x : ℝ, (isoelectricPoint (titrOf Gen.titrClass Gen.pKaND) s : Option (Except Err ℝ)) = some (.ok x) ∧
      |chargeNormalized (titrOf Gen.titrClass Gen.pKaND) x s| ≤ 1 / 50 :=
  pi_never_raises _ gen_table_ok s

/-- non-vacuity: a concrete extreme composition (only arginine) is covered -/
example : ∃ x : ℝ, (isoelectricPoint (titrOf Spec.titrClass Spec.pKaND) [AA.R, AA.R, AA.R] : Option (Except Err ℝ)) = some (.ok x) :=
  let ⟨x, hx, _⟩ := pi_never_raises_spec [AA.R, AA.R, AA.R]; ⟨x, hx⟩

end Cider.C09
