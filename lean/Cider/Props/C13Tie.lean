/-
  C13 (tie) — the concrete `upper` / `isspace` the driver runs with (ASCII rules + the interpreter's
  Unicode tables regenerated on this run) satisfy the hypotheses of the C13 theorems.
-/
import Cider.Props.C13
import Cider.Model.TextOps
namespace Cider.C13
open Cider

/-- the 20 letters are not white space … -/
theorem pyOps_letters_not_space : ∀ c, (AA.ofChar? c).isSome → pyOps.isspace c = false := by
  intro c h
  obtain ⟨a, ha⟩ := Option.isSome_iff_exists.mp h
  rw [AA.eq_toChar_of_ofChar? ha]
  cases a <;> decide +kernel

/-- … and are fixed by upper-casing -/
theorem pyOps_upper_letters : ∀ a : AA, pyOps.upper a.toChar = [a.toChar] := by
  intro a; cases a <;> decide +kernel

/-- samples: lower-case letters map to their capitals; blank, tab and newline are white space, '-' is not -/
theorem pyOps_upper_lowercase :
    pyOps.upper 'a' = ['A'] ∧ pyOps.upper 'k' = ['K'] ∧ pyOps.upper 'y' = ['Y'] ∧ pyOps.upper 'b' = ['B'] ∧
    pyOps.isspace ' ' = true ∧ pyOps.isspace '\t' = true ∧ pyOps.isspace '\n' = true ∧ pyOps.isspace '-' = false := by
  decide +kernel

/-- so for Python's own upper/isspace: construction succeeds iff the normalised string is a non-empty
    word over the 20 letters -/
theorem construct_py_ok_iff (cs : List Char) (w : Seq) :
    construct pyOps (.str cs) = .ok w ↔
      w ≠ [] ∧ Seq.ofChars? ((cs.flatMap pyOps.upper).filter (fun c => !pyOps.isspace c)) = some w :=
  construct_ok_iff pyOps pyOps_letters_not_space cs w

theorem construct_py_idempotent (w : Seq) (hw : w ≠ []) : construct pyOps (.str (w.map AA.toChar)) = .ok w :=
  construct_idempotent pyOps pyOps_upper_letters w hw

/-! non-vacuity -/
example : construct pyOps (.str ['k', ' ', 'e', '\n', 'G']) = .ok [.K, .E, .G] := by decide +kernel
example : construct pyOps (.str ['k', '1']) = .error .invalidResidue := by decide +kernel
example : construct pyOps (.str [' ', '\t']) = .error .zeroDivision := by decide +kernel

end Cider.C13
