/-
  C10 — sliding-window profiles report each window's statistic at its centre position.
-/
import Cider.Lemmas.Blobs
import Cider.Lemmas.Counts
import Cider.Lemmas.Except
import Cider.Model.Profiles
import Cider.Model.TablesSpec

namespace Cider.C10
open Cider

/-- the code's `flank = int(w/2)` arithmetic gives floor((w−1)/2) leading and ceil((w−1)/2) = floor(w/2)
    trailing empty positions, for every 1 ≤ w ≤ N -/
theorem flanks_eq (w N : Nat) (h1 : 1 ≤ w) (h2 : w ≤ N) : flanks w N = ((w - 1) / 2, w / 2) := by
  unfold flanks
  simp only []
  split_ifs with h <;> exact Prod.ext (by simp only; omega) rfl

/-- a profile is answered iff the window fits; the value row is then zeros / window statistics / zeros -/
theorem profile_ok_iff {α : Type} (stat : List α → Rat) (w : Nat) (l : List α) (v : List Rat) :
    profile stat w l = .ok v ↔
      w ≤ l.length ∧ v = zerosQ (flanks w l.length).1 ++ (wins w l).map stat ++ zerosQ (flanks w l.length).2 := by
  rw [profile, Except.ite_error_left_eq_ok, Except.ok.injEq, not_lt, eq_comm (b := v)]

/-- a window longer than the sequence is rejected with an error instead of being answered -/
theorem window_guard {α : Type} (stat : List α → Rat) (w : Nat) (l : List α) (h : l.length < w) :
    profile stat w l = .error .windowTooLong := by
  unfold profile; rw [if_pos h]

/-- the value row of an answered profile, with the flanks in closed form -/
theorem profile_row {α : Type} (stat : List α → Rat) (w : Nat) (l : List α) (v : List Rat)
    (h1 : 1 ≤ w) (h : profile stat w l = .ok v) :
    w ≤ l.length ∧
      v = List.replicate ((w - 1) / 2) 0 ++ (wins w l).map stat ++ List.replicate (w / 2) 0 := by
  obtain ⟨hw, rfl⟩ := (profile_ok_iff stat w l v).mp h
  rw [flanks_eq w l.length h1 hw]
  exact ⟨hw, rfl⟩

/-- one column per residue: the value row has length N (so the `vstack` with positions 1..N is well shaped) -/
theorem profile_length {α : Type} (stat : List α → Rat) (w : Nat) (l : List α) (v : List Rat)
    (h1 : 1 ≤ w) (h : profile stat w l = .ok v) : v.length = l.length ∧ (positions1N l.length).length = l.length := by
  obtain ⟨hw, rfl⟩ := profile_row stat w l v h1 h
  refine ⟨?_, by rw [positions1N, List.length_map, List.length_range]⟩
  rw [List.length_append, List.length_append, List.length_replicate, List.length_replicate, List.length_map,
    wins_length]
  omega

/-- the entry at (0-based) index i + floor((w−1)/2) is the statistic of the window starting at residue i -/
theorem profile_entry {α : Type} (stat : List α → Rat) (w : Nat) (l : List α) (v : List Rat)
    (h1 : 1 ≤ w) (h : profile stat w l = .ok v) (i : Nat) (hi : i + w ≤ l.length) :
    v[i + (w - 1) / 2]? = some (stat ((l.drop i).take w)) := by
  obtain ⟨hw, rfl⟩ := profile_row stat w l v h1 h
  have hi' : i < l.length + 1 - w := by omega
  rw [List.append_assoc, List.getElem?_append_right (by rw [List.length_replicate]; omega),
    List.length_replicate, Nat.add_sub_cancel,
    List.getElem?_append_left (by rw [List.length_map, wins_length]; exact hi'),
    List.getElem?_map, wins, List.getElem?_map, List.getElem?_range hi']
  rfl

/-- the floor((w−1)/2) leading and ceil((w−1)/2) trailing positions hold 0 -/
theorem profile_flanks_zero {α : Type} (stat : List α → Rat) (w : Nat) (l : List α) (v : List Rat)
    (h1 : 1 ≤ w) (h : profile stat w l = .ok v) (j : Nat) (hj : j < l.length)
    (hout : j < (w - 1) / 2 ∨ l.length - w / 2 ≤ j) : v[j]? = some 0 := by
  obtain ⟨hw, rfl⟩ := profile_row stat w l v h1 h
  rcases hout with hlt | hge
  · rw [List.append_assoc, List.getElem?_append_left (by rw [List.length_replicate]; exact hlt),
      List.getElem?_replicate, if_pos hlt]
  · have hlen : (List.replicate ((w - 1) / 2) (0 : Rat) ++ (wins w l).map stat).length = l.length - w / 2 := by
      rw [List.length_append, List.length_replicate, List.length_map, wins_length]; omega
    rw [List.getElem?_append_right (by rw [hlen]; exact hge), List.getElem?_replicate, if_pos (by rw [hlen]; omega)]

/-! ### w = N: the single window value is the whole-sequence parameter -/

theorem wins_patternOf_self (T : Tables) (s : Seq) : wins s.length (patternOf T s) = [patternOf T s] := by
  rw [← patternOf_length T s, wins_self]

theorem full_window_ncpr (T : Tables) (s : Seq) (hs : s ≠ []) :
    (wins s.length (patternOf T s)).map (statNCPR s.length) = [ncpr T s] := by
  rw [wins_patternOf_self]; rfl

theorem full_window_fcr (T : Tables) (s : Seq) (hs : s ≠ []) :
    (wins s.length (patternOf T s)).map (statFCR s.length) = [fcr T s] := by
  rw [wins_patternOf_self]; rfl

theorem full_window_sigma (T : Tables) (s : Seq) (hs : s ≠ []) :
    (wins s.length (patternOf T s)).map (statSigma s.length) = [seqSigma T s] := by
  rw [wins_patternOf_self, List.map_singleton, statSigma, seqSigma, sigma, patternOf_length]

theorem full_window_hydropathy (T : Tables) (s : Seq) (hs : s ≠ []) :
    (wins s.length s).map (statHydro T s.length) = [uverskyHydropathy T s] := by
  rw [wins_self, List.map_singleton, statHydro, uverskyHydropathy, meanOf, foldl_add, foldl_add_div,
    zero_add, zero_add]

theorem full_window_density (g : List AA) (s : Seq) (hs : s ≠ []) :
    (wins s.length s).map (statDensity g s.length) = [((s.countP (fun a => decide (a ∈ g)) : Nat) : Rat) / (s.length : Rat)] := by
  rw [wins_self, List.map_singleton, statDensity, foldl_add, zero_add, sum_map_ite_one]

/-- delta is the mean over w = 5, 6 of the mean squared deviation of the window values of the sigma
    profile from the whole-sequence sigma -/
theorem delta_from_sigma_windows (p : Pattern) :
    delta p = ((((wins 5 p).map (fun b => (sigma p - statSigma 5 b) * (sigma p - statSigma 5 b))).sum / ((wins 5 p).length : Rat)) +
               (((wins 6 p).map (fun b => (sigma p - statSigma 6 b) * (sigma p - statSigma 6 b))).sum / ((wins 6 p).length : Rat))) / 2 := by
  unfold delta
  rw [deltaForm_sum, deltaForm_sum]
  rfl

theorem mapExcept_length {α β : Type} (f : α → Except Err β) (l : List α) (r : List β)
    (h : mapExcept f l = .ok r) : r.length = l.length := by
  induction l generalizing r with
  | nil => simp [mapExcept] at h; subst h; rfl
  | cons x xs ih =>
    unfold mapExcept at h
    cases hx : f x with
    | error e => rw [hx] at h; cases h
    | ok y =>
      rw [hx] at h
      cases hr : mapExcept f xs with
      | error e => rw [hr] at h; cases h
      | ok ys => rw [hr] at h; simp at h; subst h; simp [ih ys hr]

/-- composition: one value row per group, in the order given (seven rows for the default groups) -/
theorem composition_rows (w : Nat) (grps : List (List PyMember)) (s : Seq) (rows : List (List Rat))
    (h : linComposition w grps s = .ok rows) :
    rows.length = (if grps.isEmpty then 7 else grps.length) := by
  unfold linComposition at h
  by_cases hg : grps.isEmpty = true
  · rw [if_pos hg] at h ⊢
    simp only [] at h
    have := mapExcept_length _ _ _ h
    rw [this]; rfl
  · rw [if_neg hg] at h ⊢
    cases hp : mapExcept parseGroup grps with
    | error e => rw [hp] at h; cases h
    | ok gs =>
      rw [hp] at h
      simp only [] at h
      rw [mapExcept_length _ _ _ h, mapExcept_length _ _ _ hp]

/-! non-vacuity -/
example : linNCPR specTables 5 [.K, .E, .G, .G, .K, .E] = .ok [0, 0, 1/5, -1/5, 0, 0] := by decide +kernel
example : linNCPR specTables 4 [.K, .E, .G, .G, .K, .E] = .ok [0, 0, 0, 0, 0, 0] := by decide +kernel
example : linNCPR specTables 7 [.K, .E, .G, .G, .K, .E] = .error .windowTooLong := by decide +kernel

end Cider.C10
