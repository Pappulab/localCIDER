/-
  C16 — phosphosites are exactly the requested in-range S/T/Y; derived values follow.
-/
import Cider.Model.Object
import Cider.Lemmas.Lists
import Mathlib.Tactic.Basic
import Mathlib.Tactic.Ring  -- not for the tactic: with it `2 ^ k` below elaborates via `Monoid.npow`
import Mathlib.Data.List.Basic
import Mathlib.Data.List.Range
import Mathlib.Data.List.Nodup

namespace Cider.C16
open Cider

/-- a requested 1-based position is honoured iff it lies inside the sequence and holds S, T or Y -/
def validSite (s : Seq) (site : Int) : Bool :=
  if 1 ≤ site ∧ site ≤ (s.length : Int) then residueIsSTY s (site - 1).toNat else false

theorem setSite_spec (o : Obj) (site : Int) :
    (o.setSite site).seq = o.seq ∧ (o.setSite site).pal = o.pal ∧
    (o.setSite site).phos =
      if validSite o.seq site = true ∧ (site - 1).toNat ∉ o.phos then o.phos ++ [(site - 1).toNat] else o.phos := by
  by_cases h1 : site - 1 < 0 ∨ (o.seq.length : Int) ≤ site - 1
  · have hv : validSite o.seq site = false := if_neg (by omega)
    rw [Obj.setSite, if_pos h1, hv]
    simp
  · have hv : validSite o.seq site = residueIsSTY o.seq (site - 1).toNat := if_pos (by omega)
    rw [Obj.setSite, if_neg h1, hv, Obj.addSite]
    generalize (site - 1).toNat = i
    by_cases hs : residueIsSTY o.seq i = true
    · by_cases hm : i ∈ o.phos <;> simp [hs, hm]
    · simp [hs]

theorem setPhos_frame (o : Obj) (sites : List Int) :
    (o.setPhos sites).seq = o.seq ∧ (o.setPhos sites).pal = o.pal :=
  List.foldlRecOn sites Obj.setSite (motive := fun o' => o'.seq = o.seq ∧ o'.pal = o.pal) ⟨rfl, rfl⟩
    fun o' h x _ => ⟨(setSite_spec o' x).1.trans h.1, (setSite_spec o' x).2.1.trans h.2⟩

/-- one `set` call appends, in first-occurrence order and without repeats, the valid new positions -/
theorem setPhos_phos (o : Obj) (sites : List Int) :
    (o.setPhos sites).phos =
      o.phos ++ (((sites.filter (validSite o.seq)).map (fun x => (x - 1).toNat)).filter (fun i => i ∉ o.phos)).eraseDups := by
  induction sites generalizing o with
  | nil => exact (List.append_nil _).symm
  | cons x xs ih =>
    obtain ⟨hseq, -, hphos⟩ := setSite_spec o x
    rw [Obj.setPhos, List.foldl_cons, ← Obj.setPhos, ih, hseq, hphos]
    by_cases hv : validSite o.seq x = true
    · rw [List.filter_cons_of_pos hv, List.map_cons]
      by_cases hm : (x - 1).toNat ∈ o.phos
      · rw [if_neg (fun h => h.2 hm), List.filter_cons_of_neg (by exact fun h => of_decide_eq_true h hm)]
      · -- the new index goes to the end of the stored list and, being listed now, is dropped from the rest
        rw [if_pos ⟨hv, hm⟩, List.filter_cons_of_pos (by exact decide_eq_true hm), List.eraseDups_cons,
          List.append_assoc, List.singleton_append, List.filter_filter]
        congr 3
        apply List.filter_congr
        intro i _
        simp only [List.mem_append, List.mem_singleton, not_or, Bool.decide_and, decide_not]
        exact Bool.and_comm ..
    · rw [if_neg (fun h => hv h.1), List.filter_cons_of_neg hv]

/-- the calls that modify the phosphosite list -/
inductive Call
  | set (sites : List Int)
  | clear

def step (o : Obj) : Call → Obj
  | .set sites => o.setPhos sites
  | .clear => o.clearPhos

/-- the positions requested since the last `clear` -/
def requestsSinceClear : List Call → List Int
  | [] => []
  | .set sites :: rest => if rest.any (fun c => match c with | .clear => true | _ => false) then requestsSinceClear rest
      else sites ++ requestsSinceClear rest
  | .clear :: rest => requestsSinceClear rest

theorem requestsSinceClear_concat (calls : List Call) (c : Call) :
    requestsSinceClear (calls ++ [c]) =
      match c with
      | .set sites => requestsSinceClear calls ++ sites
      | .clear => [] := by
  induction calls with
  | nil => cases c <;> simp [requestsSinceClear]
  | cons d ds ih =>
    cases d with
    | clear => exact ih
    | set sites =>
      rw [List.cons_append, requestsSinceClear, requestsSinceClear, List.any_append, ih]
      cases c with
      | clear => simp
      | set sites' => cases ds.any _ <;> simp

/-- the sequence and the palette are never changed by set/clear -/
theorem phos_seq_frame (o : Obj) (calls : List Call) :
    (calls.foldl step o).seq = o.seq ∧ (calls.foldl step o).pal = o.pal :=
  List.foldlRecOn calls step (motive := fun o' => o'.seq = o.seq ∧ o'.pal = o.pal) ⟨rfl, rfl⟩
    fun o' h c _ => by
      cases c with
      | set sites => exact ⟨(setPhos_frame o' sites).1.trans h.1, (setPhos_frame o' sites).2.trans h.2⟩
      | clear => exact h

/-- **history theorem**: after ANY series of set/clear calls on a fresh object, get_phosphosites lists —
    in first-set order and without repeats — exactly the requested 1-based positions since the last clear
    that lie inside the sequence and hold S, T or Y -/
theorem phos_history (pal : Palette) (s : Seq) (calls : List Call) :
    ((calls.foldl step (Obj.fresh pal s)).getPhos) =
      ((((requestsSinceClear calls).filter (validSite s)).map (fun x => (x - 1).toNat)).eraseDups).map (· + 1) := by
  unfold Obj.getPhos
  congr 1
  induction calls using List.reverseRecOn with
  | nil => rfl
  | append_singleton calls c ih =>
    rw [List.foldl_append, List.foldl_cons, List.foldl_nil, requestsSinceClear_concat]
    cases c with
    | clear => rfl
    | set sites =>
      rw [step, setPhos_phos, (phos_seq_frame _ calls).1, ih, List.filter_append, List.map_append,
        List.eraseDups_append, List.removeAll]
      congr 2
      apply List.filter_congr
      intro i _
      simp only [List.elem_eq_mem, List.mem_eraseDups, decide_not]

/-- the stored list never repeats a site and only holds in-range S/T/Y positions -/
theorem phos_nodup_valid (pal : Palette) (s : Seq) (calls : List Call) :
    (calls.foldl step (Obj.fresh pal s)).getPhos.Nodup ∧
    ∀ site ∈ (calls.foldl step (Obj.fresh pal s)).getPhos, validSite s (site : Int) = true := by
  rw [phos_history]
  constructor
  · exact (nodup_eraseDups _).map (fun a b h => Nat.succ.inj h)
  · intro site hs
    simp only [List.mem_map, List.mem_eraseDups, List.mem_filter] at hs
    obtain ⟨_, ⟨x, ⟨_, hv⟩, rfl⟩, rfl⟩ := hs
    have hx : 1 ≤ x := by
      by_contra hlt
      rw [validSite, if_neg (by omega)] at hv
      cases hv
    rw [show (((x - 1).toNat + 1 : Nat) : Int) = x by omega]
    exact hv

/-- get_phosphosequence: same length, E at exactly the listed positions, every other residue unchanged -/
theorem phosphoSeq_spec (s : Seq) (idxs : List Nat) :
    (substE s idxs).length = s.length ∧
    ∀ i (h : i < s.length), (substE s idxs)[i]? = some (if i ∈ idxs then AA.E else s[i]) := by
  unfold substE
  refine ⟨by rw [List.length_zipWith, List.length_range, Nat.min_self], fun i h => ?_⟩
  rw [List.getElem?_zipWith, List.getElem?_range h, List.getElem?_eq_getElem h]

/-- the delta-max cache is empty or correct -/
def CacheOK (T : Tables) (o : Obj) : Prop := o.dmaxC = none ∨ o.dmaxC = some (seqDmax T o.seq)

/-- then kappa of the object is kappa of its sequence -/
theorem obj_kappa_eq (T : Tables) (o : Obj) (h : CacheOK T o) : (o.kappa T).2 = seqKappa T o.seq := by
  have hd : (o.deltaMax T false).2.1 = seqDmax T o.seq := by
    unfold Obj.deltaMax
    rcases h with h | h <;> simp [h]
  exact congrArg (kappaOf (seqDelta T o.seq)) hd

theorem substE_nil (s : Seq) : substE s [] = s :=
  List.ext_getElem (phosphoSeq_spec s []).1 fun i h' h => by
    simpa [List.getElem?_eq_getElem h'] using (phosphoSeq_spec s []).2 i h

/-- get_kappa_after_phosphorylation is the kappa of the phosphosequence -/
theorem kappaAfter_eq_kappa_phosphoSeq (T : Tables) (o : Obj) (h : CacheOK T o) :
    (o.kappaAfterPhos T).2 = seqKappa T o.phosphoSeq := by
  unfold Obj.kappaAfterPhos Obj.phosphoSeq
  by_cases hp : o.phos = []
  · rw [if_pos hp, obj_kappa_eq T o h, hp, substE_nil]
  · rw [if_neg hp]

/-- one entry per on/off assignment: 2^k of them -/
theorem onOff_length (k : Nat) : (onOff k).length = 2 ^ k ∧ ∀ b ∈ onOff k, b.length = k := by
  induction k with
  | zero => simp [onOff]
  | succ n ih =>
    obtain ⟨h1, h2⟩ := ih
    constructor
    · rw [onOff, List.length_append, List.length_map, List.length_map, h1, Nat.pow_succ, Nat.mul_two]
    · intro b hb
      simp only [onOff, List.mem_append, List.mem_map] at hb
      rcases hb with ⟨c, hc, rfl⟩ | ⟨c, hc, rfl⟩ <;> simp [h2 c hc]

/-- value of a bit list read as a binary number, first site most significant -/
def valBE : List Bool → Nat
  | [] => 0
  | b :: bs => (if b then 2 ^ bs.length else 0) + valBE bs

/-- **binary counting order**: the j-th on/off assignment is the k-digit binary expansion of j -/
theorem onOff_binary_counting (k : Nat) : (onOff k).map valBE = List.range (2 ^ k) := by
  induction k with
  | zero => rfl
  | succ n ih =>
    have e1 : ∀ b, valBE (false :: b) = valBE b := fun b => Nat.zero_add _
    have e2 : ∀ b ∈ onOff n, valBE (true :: b) = 2 ^ n + valBE b := fun b hb => by
      rw [valBE, if_pos rfl, (onOff_length n).2 b hb]
    rw [onOff, List.map_append, List.map_map, List.map_map, Nat.pow_succ, Nat.mul_two, List.range_add, ← ih,
      List.map_map]
    exact congrArg₂ _ (List.map_congr_left fun b _ => e1 b) (List.map_congr_left e2)

/-- every distribution entry carries the six values of the correspondingly substituted sequence -/
theorem distribution_entries (T : Tables) (o : Obj) :
    o.phosDist T = (onOff o.phos.length).map (fun bits =>
      (let s' := substE o.seq (selected o.phos bits)
       [seqKappa T s', fPlus T s', fMinus T s', fcr T s', ncpr T s', meanHydropathy T s'], bits)) := rfl

theorem selected_all_on (sites : List Nat) : selected sites (List.replicate sites.length true) = sites := by
  unfold selected
  induction sites with
  | nil => rfl
  | cons x xs ih => simp [List.replicate_succ, ih]

theorem onOff_getLast? (k : Nat) : (onOff k).getLast? = some (List.replicate k true) := by
  induction k with
  | zero => rfl
  | succ n ih =>
    rw [onOff, List.getLast?_append, List.getLast?_map, ih]
    rfl

/-- the last entry (all sites on) is the fully phosphorylated sequence: its kappa is
    get_kappa_after_phosphorylation -/
theorem distribution_all_on (T : Tables) (o : Obj) :
    (o.phosDist T).getLast? =
      some (distEntry T o.phosphoSeq, List.replicate o.phos.length true) := by
  rw [Obj.phosDist, List.getLast?_map, onOff_getLast?, Option.map_some, selected_all_on, Obj.phosphoSeq]

/-- get_all_phosphorylatable_sites lists the 1-based positions of S, T, Y in increasing order -/
theorem allSTY_spec (s : Seq) :
    allSTY s = ((List.range s.length).filter (fun i => residueIsSTY s i)).map (· + 1) := by
  rw [allSTY, zip_range_eq_filterMap, List.filterMap_filterMap, ← List.filterMap_eq_filter, List.map_filterMap]
  congr 1
  funext i
  cases h : s[i]? <;> simp [residueIsSTY, Option.guard, h]

end Cider.C16
