/-
  C11 (real-valued part) — the Wootton–Federhen value is the Shannon entropy, base alphabet-size, of the
  window's reduced-alphabet composition; it lies in [0,1].
  The driver prints the exact letter counts of every window; the harness evaluates the entropy.
-/
import Cider.Model.Profiles
import Mathlib.Analysis.SpecialFunctions.Log.NegMulLog
import Mathlib.Analysis.SpecialFunctions.Log.Base

namespace Cider.C11
open Cider Real

/-- `CWF`: `for x in alphabet: p = count/w; if p > 0: CWF = p*log(p, |A|) + CWF`; returns `-CWF` -/
noncomputable def wfLoop (A w : Nat) (counts : List Nat) : ℝ :=
  -(counts.foldl (fun (acc : ℝ) (c : Nat) => if 0 < ((c : ℝ) / (w : ℝ)) then ((c : ℝ) / w) * Real.logb A ((c : ℝ) / w) + acc else acc) 0)

/-- Shannon entropy of the composition, to base |A| (0·log 0 = 0) -/
noncomputable def entropyBase (A w : Nat) (counts : List Nat) : ℝ :=
  (counts.map (fun (c : Nat) => Real.negMulLog ((c : ℝ) / (w : ℝ)))).sum / Real.log A

/-- one pass of the loop subtracts the letter's entropy term: the `p > 0` guard only skips terms that are 0 -/
theorem wf_step (A w c : Nat) (acc : ℝ) :
    (if 0 < ((c : ℝ) / (w : ℝ)) then ((c : ℝ) / w) * Real.logb A ((c : ℝ) / w) + acc else acc)
      = acc - Real.negMulLog ((c : ℝ) / w) / Real.log A := by
  rcases (div_nonneg (Nat.cast_nonneg c) (Nat.cast_nonneg w) : (0 : ℝ) ≤ c / w).eq_or_lt with h | h
  · rw [← h, if_neg (lt_irrefl 0), negMulLog_zero, zero_div, sub_zero]
  · rw [if_pos h, negMulLog, logb]; ring

theorem wf_eq_entropy (A w : Nat) (counts : List Nat) : wfLoop A w counts = entropyBase A w counts := by
  unfold wfLoop entropyBase
  induction counts using List.reverseRecOn with
  | nil => simp
  | append_singleton l c ih =>
    rw [List.foldl_append, List.foldl_cons, List.foldl_nil, wf_step, neg_sub, ← neg_add_eq_sub, ih,
      List.map_append, List.sum_append, List.map_singleton, List.sum_singleton, add_div]

theorem wf_nonneg (A w : Nat) (counts : List Nat) (hA : 2 ≤ A) (hw : 0 < w) (hc : ∀ c ∈ counts, c ≤ w) :
    0 ≤ wfLoop A w counts := by
  rw [wf_eq_entropy, entropyBase]
  refine div_nonneg (List.sum_nonneg (List.forall_mem_map.mpr fun c hcm => ?_))
    (log_nonneg (Nat.one_le_cast.mpr (by omega)))
  exact negMulLog_nonneg (div_nonneg (Nat.cast_nonneg c) (Nat.cast_nonneg w))
    ((div_le_one (Nat.cast_pos.mpr hw)).mpr (Nat.cast_le.mpr (hc c hcm)))

/-- Gibbs' inequality for one term: `−x log x ≤ 1 − x` at `x = A·p` -/
theorem negMulLog_le (A p : ℝ) (hA : 0 < A) (hp : 0 ≤ p) : negMulLog p ≤ 1 / A + p * (log A - 1) := by
  have h := negMulLog_le_one_sub_self (mul_nonneg hA.le hp)
  rw [negMulLog_mul, negMulLog] at h
  refine le_of_mul_le_mul_left ?_ hA
  rw [mul_add, mul_one_div_cancel hA.ne']
  linarith

theorem sum_negMulLog_le (A w : ℝ) (hA : 0 < A) (hw : 0 ≤ w) (l : List Nat) :
    (l.map (fun (c : Nat) => negMulLog ((c : ℝ) / w))).sum ≤ l.length / A + (l.sum : Nat) / w * (log A - 1) := by
  induction l with
  | nil => simp
  | cons c cs ih =>
    have h := negMulLog_le A (c / w) hA (div_nonneg (Nat.cast_nonneg c) hw)
    simp only [List.map_cons, List.sum_cons, List.length_cons, Nat.cast_add, Nat.cast_one, add_div, add_mul]
    linarith

/-- **the value is ≤ 1** (Gibbs): the counts of the |A| alphabet letters sum to the window size -/
theorem wf_le_one (A w : Nat) (counts : List Nat) (hA : 2 ≤ A) (hw : 0 < w)
    (hlen : counts.length = A) (hsum : counts.sum = w) : wfLoop A w counts ≤ 1 := by
  have hA0 : (0 : ℝ) < A := Nat.cast_pos.mpr (by omega)
  have hw0 : (0 : ℝ) < w := Nat.cast_pos.mpr hw
  have h := sum_negMulLog_le A w hA0 hw0.le counts
  rw [hlen, hsum, div_self hA0.ne', div_self hw0.ne', one_mul, add_sub_cancel] at h
  rw [wf_eq_entropy, entropyBase, div_le_one (log_pos (Nat.one_lt_cast.mpr (by omega)))]
  exact h

/-- a homopolymeric window (one letter has all w residues, every other count is 0) has value 0 -/
theorem wf_homopolymer (A w : Nat) (counts : List Nat) (hw : 0 < w)
    (hc : ∀ c ∈ counts, c = 0 ∨ c = w) : wfLoop A w counts = 0 := by
  rw [wf_eq_entropy, entropyBase, List.sum_eq_zero (List.forall_mem_map.mpr fun c hcm => ?_), zero_div]
  rcases hc c hcm with rfl | rfl
  · rw [Nat.cast_zero, zero_div, negMulLog_zero]
  · rw [div_self (Nat.cast_ne_zero.mpr hw.ne'), negMulLog_one]

/-- the value only depends on the composition of the window -/
theorem wf_perm_invariant (alphabet : List AA) (A w : Nat) (win win' : Seq) (h : win.Perm win') :
    wfLoop A w (letterCounts alphabet win) = wfLoop A w (letterCounts alphabet win') := by
  have : letterCounts alphabet win = letterCounts alphabet win' :=
    List.map_congr_left fun x _ => h.count_eq x
  rw [this]

end Cider.C11
