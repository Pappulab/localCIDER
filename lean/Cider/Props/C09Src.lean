/-
  Cider.Props.C09Src — source-text tie for C09: `SequenceParameters.__verify_pH` as `tools/pyexpr2lean.py` translates it
  from the live SOURCE on every run (Gen/Decisions.lean), for ALL rational arguments.  Its condition is what
  `C09.pH_rejected_iff` proves of the model's `pHRejected`.  A changed threshold, comparison direction or
  outcome in the source breaks the proof here.
-/
import Cider.Gen.Decisions
import Mathlib.Algebra.Order.Field.Rat
namespace Cider.C09Src
open Cider

/-- `__verify_pH` as written today rejects exactly pH < 0 or pH > 14 (C09). -/
theorem verifyPH_eq (pH : Rat) : (Gen.verifyPH pH = .error ()) ↔ (pH < 0 ∨ 14 < pH) := by
  unfold Gen.verifyPH
  rw [div_one, div_one]
  split_ifs with h1 h2
  · exact iff_of_true rfl (.inl h1)
  · exact iff_of_true rfl (.inr h2)
  · exact iff_of_false nofun (not_or.mpr ⟨h1, h2⟩)

end Cider.C09Src
