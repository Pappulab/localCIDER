/-
  C08 — the diagram-of-states region is total and follows the FCR/NCPR thresholds.
  With two lemmas on its five-way `if` cascade over arbitrary tests, shared with C19.
-/
import Cider.Props.C04
import Cider.Spec.Defs
import Mathlib.Tactic.NormNum
import Mathlib.Algebra.Order.Field.Rat
import Mathlib.Algebra.Order.Field.Basic

namespace Cider.C08
open Cider

/-- the cascade on exact fractions `x = f+`, `y = f−`: neither defensive `raise` is reachable and
    the answer is the threshold rule -/
theorem regionCode_xy (x y : Rat) (_hx : 0 ≤ x) (_hy : 0 ≤ y) (_h1 : x + y ≤ 1) :
    regionCode (x + y) (x - y) x y =
      .ok (if x + y < 1/4 then 1 else if x + y ≤ 7/20 then 2
           else if -7/20 < x - y ∧ x - y < 7/20 then 3 else if y < x then 5 else 4) := by
  unfold regionCode
  -- past the third test 7/20 ≤ |x − y| and 7/20 < x + y ≤ 1: exactly the larger of x, y exceeds 7/20
  grind only

theorem regionDef_xy (np nn N : Nat) (hN : 0 < N) :
    Spec.regionDef np nn N =
      (let x : Rat := (np : Rat) / (N : Rat); let y : Rat := (nn : Rat) / (N : Rat)
       if x + y < 1/4 then 1 else if x + y ≤ 7/20 then 2
       else if -7/20 < x - y ∧ x - y < 7/20 then 3 else if y < x then 5 else 4) := by
  have hNq : (0 : Rat) < (N : Rat) := Nat.cast_pos.mpr hN
  simp only [Spec.regionDef, Nat.cast_add, add_div, sub_div, div_lt_div_iff_of_pos_right hNq, Nat.cast_lt]

/-- **total and equal to the spec**: for every composition (n+, n−, N) of a non-empty sequence the
    cascade returns — never raises — exactly the region given by the exact rational thresholds -/
theorem region_total_and_spec (T : Tables) (s : Seq) (hs : s ≠ []) :
    phaseRegion T s = .ok (Spec.regionDef (nPos T s) (nNeg T s) s.length) := by
  have hN : 0 < s.length := List.length_pos_iff.mpr hs
  have e1 := C04.fcr_eq_fplus_add_fminus T s
  have hx : (0 : Rat) ≤ fPlus T s := div_nonneg (Nat.cast_nonneg _) (Nat.cast_nonneg _)
  have hy : (0 : Rat) ≤ fMinus T s := div_nonneg (Nat.cast_nonneg _) (Nat.cast_nonneg _)
  rw [regionDef_xy _ _ _ hN, phaseRegion, C04.ncpr_eq_fplus_sub_fminus, e1,
    regionCode_xy _ _ hx hy (e1 ▸ (C04.abs_ncpr_le_fcr_le_one T s hs).2)]
  rfl

theorem cascade_in_1_5 {p q r s : Prop} [Decidable p] [Decidable q] [Decidable r] [Decidable s] {n : Nat}
    (h : n = if p then 1 else if q then 2 else if r then 3 else if s then 5 else 4) : 1 ≤ n ∧ n ≤ 5 := by
  subst h
  split_ifs <;> omega

theorem region_in_1_5 (np nn N : Nat) : 1 ≤ Spec.regionDef np nn N ∧ Spec.regionDef np nn N ≤ 5 :=
  cascade_in_1_5 rfl

theorem cascade_above {f : Rat} {r s : Prop} [Decidable r] [Decidable s] (h : 7/20 < f) :
    (if f < 1/4 then 1 else if f ≤ 7/20 then 2 else if r then 3 else if s then 5 else 4 : Nat) =
      if r then 3 else if s then 5 else 4 := by
  have h14 : (1/4 : Rat) ≤ 7/20 := by norm_num
  rw [if_neg (not_lt.mpr (h14.trans h.le)), if_neg (not_le.mpr h)]

/-- the threshold reading of the five regions (FCR < ¼; ¼ ≤ FCR ≤ 7⁄20; FCR > 7⁄20 ∧ |NCPR| < 7⁄20;
    otherwise 5 iff positives outnumber negatives, 4 iff negatives outnumber positives) -/
theorem region_spec_cases (np nn N : Nat) :
    let fcr : Rat := ((np + nn : Nat) : Rat) / (N : Rat)
    let ncpr : Rat := ((np : Rat) - (nn : Rat)) / (N : Rat)
    (fcr < 1/4 → Spec.regionDef np nn N = 1) ∧
    (1/4 ≤ fcr ∧ fcr ≤ 7/20 → Spec.regionDef np nn N = 2) ∧
    (7/20 < fcr ∧ |ncpr| < 7/20 → Spec.regionDef np nn N = 3) ∧
    (7/20 < fcr ∧ 7/20 ≤ |ncpr| ∧ nn < np → Spec.regionDef np nn N = 5) ∧
    (7/20 < fcr ∧ 7/20 ≤ |ncpr| ∧ np < nn → Spec.regionDef np nn N = 4) := by
  intro fcr ncpr
  have e : Spec.regionDef np nn N = if fcr < 1/4 then 1 else if fcr ≤ 7/20 then 2
      else if |ncpr| < 7/20 then 3 else if nn < np then 5 else 4 := by
    simp only [Spec.regionDef, abs_lt, neg_div, fcr, ncpr]
  exact ⟨fun h => by rw [e, if_pos h],
    fun ⟨h1, h2⟩ => by rw [e, if_neg (not_lt.mpr h1), if_pos h2],
    fun ⟨h1, h2⟩ => by rw [e, cascade_above h1, if_pos h2],
    fun ⟨h1, h2, h3⟩ => by rw [e, cascade_above h1, if_neg (not_lt.mpr h2), if_pos h3],
    fun ⟨h1, h2, h3⟩ => by rw [e, cascade_above h1, if_neg (not_lt.mpr h2), if_neg (lt_asymm h3)]⟩

/-- in the last case equality of the two counts is impossible: 4 or 5 is decided by a strict majority -/
theorem region_4_5 (np nn N : Nat) (hN : 0 < N)
    (h : Spec.regionDef np nn N = 4 ∨ Spec.regionDef np nn N = 5) : np ≠ nn := by
  rintro rfl
  have h3 : -7/20 < ((np : Rat) - np) / N ∧ ((np : Rat) - np) / N < 7/20 := by
    rw [sub_self, zero_div]; norm_num
  unfold Spec.regionDef at h
  simp only [if_pos h3] at h
  split_ifs at h <;> omega

theorem region_factors_through_counts (T : Tables) (s t : Seq) (hs : s ≠ []) (ht : t ≠ [])
    (h1 : nPos T s = nPos T t) (h2 : nNeg T s = nNeg T t) (h3 : s.length = t.length) :
    phaseRegion T s = phaseRegion T t := by
  rw [region_total_and_spec T s hs, region_total_and_spec T t ht, h1, h2, h3]

/-! non-vacuity: boundary compositions 7/20 = 21/60 and 1/4 -/
example : Spec.regionDef 7 0 20 = 2 ∧ Spec.regionDef 21 0 60 = 2 ∧ Spec.regionDef 22 0 60 = 5 ∧
    Spec.regionDef 5 0 20 = 2 ∧ Spec.regionDef 4 0 20 = 1 ∧ Spec.regionDef 4 4 20 = 3 ∧ Spec.regionDef 0 8 20 = 4 := by
  decide +kernel

end Cider.C08
