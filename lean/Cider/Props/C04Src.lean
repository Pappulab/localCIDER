/-
  Cider.Props.C04Src — source-text tie for C04: the no-pH forms of `Sequence.Fplus / Fminus / FCR / NCPR /
  FER / mean_net_charge` as `tools/pyexpr2lean.py` translates them from the live SOURCE on every run
  (Gen/Decisions.lean) are, for ALL arguments, the fractions the C04 theorems are about, and the
  identities FCR = f+ + f-, NCPR = f+ - f-, |NCPR| <= FCR hold of the source text itself.
-/
import Cider.Gen.Decisions
import Cider.Model.SeqParams
import Mathlib.Tactic.Linarith
import Mathlib.Tactic.Ring
import Mathlib.Tactic.Push
import Mathlib.Algebra.Order.Field.Rat
import Mathlib.Algebra.Order.Field.Basic
namespace Cider.C04Src
open Cider

/-- the translated getters are the model's fractions of the same sequence -/
theorem fractions_eq (T : Tables) (s : Seq) :
    Gen.fplusSrc (nPos T s) s.length = .ok (fPlus T s) ∧
    Gen.fminusSrc (nNeg T s) s.length = .ok (fMinus T s) ∧
    Gen.fcrSrc (nPos T s) (nNeg T s) s.length = .ok (fcr T s) ∧
    Gen.ncprSrc (nPos T s) (nNeg T s) s.length = .ok (ncpr T s) ∧
    Gen.ferSrc (nPos T s) (nNeg T s) (s.count AA.P) s.length = .ok (fer T s) ∧
    Gen.mncSrc (ncpr T s) = .ok (meanNetCharge T s) := by
  unfold Gen.fplusSrc Gen.fminusSrc Gen.fcrSrc Gen.ncprSrc Gen.ferSrc Gen.mncSrc fPlus fMinus fcr ncpr fer meanNetCharge
  refine ⟨?_, ?_, ?_, ?_, ?_, rfl⟩ <;> (congr 1; push_cast; ring)

/-- FCR = f+ + f- and NCPR = f+ - f- as identities of the SOURCE TEXT (any counts, any length) -/
theorem source_identities (cp cn len : Rat) :
    (do let a ← Gen.fplusSrc cp len; let b ← Gen.fminusSrc cn len; pure (a + b)) = Gen.fcrSrc cp cn len ∧
    (do let a ← Gen.fplusSrc cp len; let b ← Gen.fminusSrc cn len; pure (a - b)) = Gen.ncprSrc cp cn len := by
  unfold Gen.fplusSrc Gen.fminusSrc Gen.fcrSrc Gen.ncprSrc
  constructor <;> (simp only [bind, Except.bind, pure, Except.pure]; congr 1; ring)

/-- |NCPR| <= FCR <= 1 for the source text, for non-negative counts that fit in the length -/
theorem source_bounds (cp cn len : Rat) (hp : 0 ≤ cp) (hn : 0 ≤ cn) (hl : 0 < len) (hfit : cp + cn ≤ len) :
    ∃ n f m, Gen.ncprSrc cp cn len = .ok n ∧ Gen.fcrSrc cp cn len = .ok f ∧ Gen.mncSrc n = .ok m ∧ m ≤ f ∧ f ≤ 1 ∧ 0 ≤ m := by
  unfold Gen.ncprSrc Gen.fcrSrc Gen.mncSrc
  refine ⟨_, _, _, rfl, rfl, rfl, ?_, ?_, ?_⟩
  · have hl' : 0 < len + 0 / 1 := by simpa using hl
    split_ifs with h
    · rw [← neg_div, div_le_div_iff_of_pos_right hl']; linarith
    · rw [div_le_div_iff_of_pos_right hl']; linarith
  · have hl' : 0 < len + 0 / 1 := by simpa using hl
    rw [div_le_one hl']; linarith
  · split_ifs with h
    · linarith
    · push Not at h; exact h

end Cider.C04Src
