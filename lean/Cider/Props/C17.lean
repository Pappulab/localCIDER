/-
  C17 — shuffles and moves only rearrange, keep frozen sites, stay self-consistent.
  Every theorem quantifies over all sequences, all frozen sets and all
  well-formed outcomes of the internal random choices (the "tape").
-/
import Cider.Lemmas.Moves
import Cider.Props.C03
import Mathlib.Data.List.Nodup

namespace Cider.C17
open Cider

/-- exchanging two non-overlapping blocks rearranges -/
theorem swapBlocks_perm (s : Seq) (a b L : Nat) (h1 : a + L ≤ b) : (swapBlocks s a b L).Perm s := by
  conv_rhs => rw [split5 s a b L h1]
  rw [swapBlocks, List.perm_iff_count]
  intro x
  simp only [List.count_append]
  omega

/-- pair swap: always a rearrangement (no side condition) -/
theorem swapRes_perm (s : Seq) (i j : Nat) : (swapRes s i j).Perm s := by
  unfold swapRes
  split
  · exact List.Perm.refl _
  · split
    · exact List.Perm.refl _
    · apply swapBlocks_perm; omega

/-- block swap: a rearrangement for every block size and every pair of sampled start indices -/
theorem blockSwap_perm (s : Seq) (bs a0 b0 : Nat) (h : a0 ≠ b0) : (blockSwap s bs a0 b0).Perm s := by
  unfold blockSwap
  apply swapBlocks_perm
  rcases Nat.lt_or_gt_of_ne h with h | h
  · rw [Nat.min_eq_left (by omega), Nat.max_eq_right (by omega)]; omega
  · rw [Nat.min_eq_right (by omega), Nat.max_eq_left (by omega)]; omega

/-- picking by a predicate on positions and by its complement partitions the sequence -/
theorem pick_partition (s : Seq) (p : Nat → Bool) : (pick s p ++ pick s (fun i => !p i)).Perm s := by
  have := pick_partition3 s p (fun i => !p i) (fun _ => false) (fun i => by cases p i <;> simp)
  rwa [show pick s (fun _ => false) = [] by simp [pick], List.append_nil] at this

/-- what `fullShuffle` deals: the shuffled stack is a rearrangement of the movable residues, and the three
    classes of the pattern it deals along (movable = 1, none = −1, frozen = 0) have the sizes of the three lists -/
theorem fullShuffle_counts (s : Seq) (frozen order : List Nat) (h : shuffleTapeOK s frozen order = true) :
    (order.reverse.filterMap (fun k => s[k]?)).Perm (pick s (fun i => decide (i ∉ frozen))) ∧
    countPos (classPattern s.length (fun i => if i ∈ frozen then (0 : Int) else 1))
      = (order.reverse.filterMap (fun k => s[k]?)).length ∧
    countNeg (classPattern s.length (fun i => if i ∈ frozen then (0 : Int) else 1)) = ([] : List AA).length ∧
    countNeut (classPattern s.length (fun i => if i ∈ frozen then (0 : Int) else 1))
      = (pick s (fun i => decide (i ∈ frozen))).length := by
  have hstack := filterMap_perm_pick s _ _ ((List.reverse_perm order).trans (List.isPerm_iff.mp h))
  obtain ⟨c1, c2, c3⟩ := counts_classPattern s.length (fun i => if i ∈ frozen then (0 : Int) else 1)
  refine ⟨hstack, ?_, ?_, ?_⟩
  · rw [c1, hstack.length_eq, pick_length]
    exact List.countP_congr fun i _ => by by_cases hi : i ∈ frozen <;> simp [hi]
  · rw [c2, List.length_nil, List.countP_eq_zero]
    intro i _; by_cases hi : i ∈ frozen <;> simp [hi]
  · rw [c3, pick_length]
    exact List.countP_congr fun i _ => by by_cases hi : i ∈ frozen <;> simp [hi]

/-- **full shuffle**: for every frozen set and every outcome of `rand.shuffle` (a permutation of the
    movable positions) the child is a rearrangement of the parent -/
theorem fullShuffle_perm (s : Seq) (frozen order : List Nat) (h : shuffleTapeOK s frozen order = true) :
    (fullShuffle s frozen order).Perm s := by
  obtain ⟨hstack, e1, e2, e3⟩ := fullShuffle_counts s frozen order h
  refine (dealOut_perm _ _ _ _ e1 e2 e3).trans ?_
  rw [List.append_nil]
  refine (hstack.append_right _).trans ?_
  have := pick_partition s (fun i => decide (i ∉ frozen))
  simpa only [decide_not, Bool.not_not] using this

/-- **cluster move**: for every cluster window and every sample of outside positions the child is a
    rearrangement of the parent -/
theorem clusterSwap_perm (s : Seq) (cs center : Nat) (swapIdxs : List Nat)
    (h : clusterTapeOK s cs center swapIdxs = true) : (clusterSwap s cs center swapIdxs).Perm s := by
  unfold clusterTapeOK at h
  simp only [Bool.and_eq_true, decide_eq_true_eq, beq_iff_eq, List.all_eq_true, Bool.not_eq_true',
    decide_eq_false_iff_not] at h
  obtain ⟨⟨⟨⟨hcs, hlo⟩, hhi⟩, hlen⟩, hall⟩ := h
  unfold clusterSwap
  simp only []
  set lo := center - cs / 2
  set hi := center + (cs + 1) / 2
  set inWin : Nat → Bool := fun i => decide (lo ≤ i ∧ i < hi)
  set inSwap : Nat → Bool := fun i => decide (i ∈ swapIdxs)
  have hdisj : ∀ i, inSwap i = true → inWin i = false := by
    intro i hi'
    have hm : i ∈ swapIdxs := by simpa [inSwap] using hi'
    have := (hall i hm).1.2
    simpa [inWin] using this
  set cls : Nat → Int := fun i => if inSwap i then 1 else if inWin i then -1 else 0
  obtain ⟨c1, c2, c3⟩ := counts_classPattern s.length cls
  -- the exchange needs as many sampled positions as window positions: both are `cs`
  have hswapcount : (List.range s.length).countP inSwap = cs := by
    rw [countP_mem_range swapIdxs s.length _ fun i hi' => (hall i hi').1.1, hlen]
    exact List.nodup_iff_count_eq_one.mpr fun a ha => (hall a ha).2
  have hwincount : (List.range s.length).countP (fun i => inWin i && !inSwap i) = cs := by
    rw [List.countP_congr (q := inWin) fun i _ => by cases hs : inSwap i <;> simp [hdisj i, hs],
      countP_range_window s.length lo hi (by omega) hhi]
    omega
  have e1 : countPos (classPattern s.length cls) = (pick s (fun i => inWin i && !inSwap i)).length := by
    rw [c1, pick_length, hwincount, ← hswapcount]
    exact List.countP_congr fun i _ => by cases hs : inSwap i <;> cases hw : inWin i <;> simp [cls, hs, hw]
  have e2 : countNeg (classPattern s.length cls) = (pick s inSwap).length := by
    rw [c2, pick_length, hswapcount, ← hwincount]
    exact List.countP_congr fun i _ => by cases hs : inSwap i <;> cases hw : inWin i <;> simp [cls, hs, hw]
  have e3 : countNeut (classPattern s.length cls) = (pick s (fun i => !inSwap i && !inWin i)).length := by
    rw [c3, pick_length]
    exact List.countP_congr fun i _ => by cases hs : inSwap i <;> cases hw : inWin i <;> simp [cls, hs, hw]
  refine (dealOut_perm _ _ _ _ e1 e2 e3).trans ?_
  apply pick_partition3
  intro i
  cases hs : inSwap i <;> cases hw : inWin i <;> simp

/-- the charge-type swap is a pair swap of two movable positions: a rearrangement
    (`swapRandCharge_frozen`: it keeps every frozen position) -/
theorem swapRandCharge_perm (T : Tables) (s : Seq) (frozen : List Nat) (drawn : Nat × Nat) (i j : Nat) (r : Seq)
    (h : swapRandCharge T s frozen drawn i j = some (some r)) : r.Perm s := by
  unfold swapRandCharge at h
  split at h
  · cases h
  · split_ifs at h
    simp only [Option.some.injEq] at h
    rw [← h]; exact swapRes_perm s i j

/-- **full shuffle keeps every frozen position**: for every frozen set and every shuffle outcome, each
    frozen in-range position of the child holds its original residue -/
theorem fullShuffle_frozen (s : Seq) (frozen order : List Nat) (h : shuffleTapeOK s frozen order = true)
    (i : Nat) (hi : i < s.length) (hf : i ∈ frozen) : (fullShuffle s frozen order)[i]? = s[i]? := by
  obtain ⟨_, e1, e2, _⟩ := fullShuffle_counts s frozen order h
  rw [classPattern, List.range_eq_range'] at e1 e2
  have := dealOut_pickFrom_zero (fun i => if i ∈ frozen then (0 : Int) else 1) s 0 _ _ e1 e2 i hi
    (by rw [Nat.zero_add, if_pos hf])
  rw [← this, fullShuffle, classPattern, List.range_eq_range', pick_eq_pickFrom]
  congr 3
  funext j; by_cases hj : j ∈ frozen <;> simp [hj]

/-- a pair swap touches only the two positions swapped -/
theorem swapRes_outside (s : Seq) (i j k : Nat) (hi : k ≠ i) (hj : k ≠ j) : (swapRes s i j)[k]? = s[k]? := by
  unfold swapRes
  split
  · rfl
  · split
    · rfl
    · rename_i hne hlen
      apply swapBlocks_outside <;> omega

theorem not_mem_frozen_of_mem_idxOf (T : Tables) (s : Seq) (frozen : List Nat) (sign : Int) (i : Nat) (h : i ∈ idxOf T s frozen sign) :
    i ∉ frozen := by
  unfold idxOf at h
  simp only [List.mem_filterMap] at h
  obtain ⟨ip, _, h2⟩ := h
  split_ifs at h2 with hc
  injection h2 with h2
  rw [← h2]; exact hc.2

/-- the charge-type swap keeps every frozen position (the two swapped positions are drawn from the
    non-frozen index sets) -/
theorem swapRandCharge_frozen (T : Tables) (s : Seq) (frozen : List Nat) (drawn : Nat × Nat) (i j : Nat) (r : Seq)
    (h : swapRandCharge T s frozen drawn i j = some (some r)) (k : Nat) (hk : k ∈ frozen) : r[k]? = s[k]? := by
  unfold swapRandCharge at h
  split at h
  · cases h
  · split_ifs at h with hok
    simp only [Option.some.injEq] at h
    rw [← h]
    unfold swapChargeOK at hok
    simp only [Bool.and_eq_true, decide_eq_true_eq] at hok
    obtain ⟨⟨⟨⟨⟨⟨hi, hj⟩, _⟩, _⟩, _⟩, _⟩, _⟩ := hok
    have hi' : i ∉ frozen := by
      split_ifs at hi <;> exact not_mem_frozen_of_mem_idxOf T s frozen _ i hi
    have hj' : j ∉ frozen := by
      split_ifs at hj <;> exact not_mem_frozen_of_mem_idxOf T s frozen _ j hj
    apply swapRes_outside
    · intro e; subst e; exact hi' hk
    · intro e; subst e; exact hj' hk

/-- chains: any sequence of moves, each a rearrangement of its input, yields a rearrangement of the
    original sequence -/
theorem chain_perm (s : Seq) (steps : List (Seq → Seq)) (h : ∀ f ∈ steps, ∀ x : Seq, (f x).Perm x) :
    (steps.foldl (fun acc f => f acc) s).Perm s := by
  induction steps generalizing s with
  | nil => exact List.Perm.refl _
  | cons f rest ih =>
    rw [List.foldl_cons]
    exact (ih (f s) (fun g hg => h g (List.mem_cons_of_mem _ hg))).trans (h f List.mem_cons_self s)

/-- a delta-max carried over from the parent is the child's own delta-max: it only depends on the
    composition, and every move is a rearrangement -/
theorem child_dmax_consistent (T : Tables) (parent child : Seq) (h : child.Perm parent) :
    seqDmax T child = seqDmax T parent ∧ child.length = parent.length ∧
    nPos T child = nPos T parent ∧ nNeg T child = nNeg T parent :=
  ⟨Cider.C03.dmax_composition_only T _ _ h, h.length_eq,
   (h.map _).countP_eq _, (h.map _).countP_eq _⟩

/-- **the frozen clause is FALSE of the pinned code for block swap** (known finding F-C17-1): the move never
    looks at `frozen`; with block size 3 and start indices {1, 0} position 0 of `SDRDNG` changes -/
theorem frozen_ignored_by_block_swap_witness :
    blockSwap [.S, .D, .R, .D, .N, .G] 3 1 0 = [.D, .N, .R, .S, .D, .G] := by decide

end Cider.C17
