/-
  C20 — HTML rendering shows each residue once, in order, in its palette colour; palette updates
  are all-or-nothing.
-/
import Cider.Model.Object
import Cider.Lemmas.Alphabet
import Mathlib.Tactic.Basic
import Mathlib.Data.List.Basic

namespace Cider.C20
open Cider

theorem renderFromC_eq (pal : AA → List Char) (i : Nat) (s : Seq) :
    renderFromC pal i s =
      ((List.range' i s.length).zip s).flatMap (fun ia => sepC ia.1 ++ spanC (pal ia.2) ia.2) := by
  induction s generalizing i with
  | nil => rfl
  | cons a rest ih =>
    rw [renderFromC, ih, List.length_cons, List.range'_succ, List.zip_cons_cons, List.flatMap_cons]

/-- **structure of the rendering**: prefix, then for the residues in order (numbered from 0) a space
    iff the number is a multiple of 10, a `<br>` iff it is a multiple of 50, and one span carrying the
    residue letter in the palette colour of that residue; then the suffix.  Nothing else. -/
theorem render_structure (pal : AA → List Char) (s : Seq) :
    renderC pal s = htmlPrefixC ++
      (((List.range s.length).zip s).flatMap (fun ia => sepC ia.1 ++ spanC (pal ia.2) ia.2)) ++ htmlSuffixC := by
  rw [renderC, renderFromC_eq, List.range_eq_range']

theorem sep_blocks (i : Nat) :
    sepC i = (if i % 10 = 0 then [' '] else []) ++ (if i % 50 = 0 then brC else []) := rfl

/-- inside a tag everything up to the closing '>' is dropped -/
theorem strip_in_tag (l tl : List Char) (hl : ∀ c ∈ l, c ≠ '>') :
    stripMarkup (l ++ '>' :: tl) true = stripMarkup tl false := by
  induction l with
  | nil => rw [List.nil_append, stripMarkup, if_neg (by decide), if_pos ⟨rfl, rfl⟩]
  | cons c cs ih =>
    obtain ⟨hc, hcs⟩ := List.forall_mem_cons.mp hl
    rw [List.cons_append, stripMarkup, ← ih hcs]
    by_cases h1 : c = '<'
    · rw [if_pos h1]
    · rw [if_neg h1, if_neg (by simp [hc]), if_pos (.inl rfl)]

theorem strip_tag (l tl : List Char) (hl : ∀ c ∈ l, c ≠ '>') :
    stripMarkup ('<' :: (l ++ '>' :: tl)) false = stripMarkup tl false := by
  rw [stripMarkup, if_pos rfl, strip_in_tag l tl hl]

/-- for a literal tag `t`, `ht` is `rfl` -/
theorem strip_lit_tag (t tl : List Char) (ht : t = '<' :: (t.tail.dropLast ++ ['>']))
    (hl : ∀ c ∈ t.tail.dropLast, c ≠ '>') : stripMarkup (t ++ tl) false = stripMarkup tl false := by
  rw [ht, List.cons_append, List.append_assoc, List.singleton_append]
  exact strip_tag _ tl hl

theorem strip_space (tl : List Char) : stripMarkup (' ' :: tl) false = stripMarkup tl false := by
  rw [stripMarkup, if_neg (by decide), if_neg (by simp), if_pos (.inr rfl)]

theorem strip_plain (c : Char) (tl : List Char) (h1 : c ≠ '<') (h2 : c ≠ ' ') :
    stripMarkup (c :: tl) false = c :: stripMarkup tl false := by
  rw [stripMarkup, if_neg h1, if_neg (by simp), if_neg (by simp [h2])]

/-- stripping one span leaves exactly the residue letter -/
theorem strip_span (col : List Char) (a : AA) (hcol : ∀ c ∈ col, c ≠ '>') (rest : List Char) :
    stripMarkup (spanC col a ++ rest) false = a.toChar :: stripMarkup rest false := by
  have e : spanC col a ++ rest =
      '<' :: ((spanOpenC.tail ++ col ++ ['"']) ++ '>' :: a.toChar :: (spanCloseC ++ rest)) := by
    simp only [spanC, List.append_assoc]; rfl
  have ha : ∀ c, AA.ofChar? c = none → a.toChar ≠ c := fun c hc h => by
    rw [← h, AA.ofChar?_toChar] at hc; cases hc
  rw [e, strip_tag _ _ (List.forall_mem_append.mpr ⟨List.forall_mem_append.mpr ⟨by decide, hcol⟩, by decide⟩),
    strip_plain _ _ (ha '<' rfl) (ha ' ' rfl), strip_lit_tag spanCloseC rest rfl (by decide)]

theorem strip_sep (i : Nat) (rest : List Char) : stripMarkup (sepC i ++ rest) false = stripMarkup rest false := by
  have hbr : stripMarkup (brC ++ rest) false = stripMarkup rest false := strip_lit_tag brC rest rfl (by decide)
  rw [sepC, List.append_assoc]
  split_ifs
  · exact (strip_space _).trans hbr
  · exact strip_space _
  · exact hbr
  · rfl

/-- **stripping the markup recovers the sequence** (palette colours never contain '>') -/
theorem strip_render (pal : AA → List Char) (hpal : ∀ a, ∀ c ∈ pal a, c ≠ '>') (s : Seq) :
    stripMarkup (renderC pal s) false = s.map AA.toChar := by
  have gen : ∀ i, stripMarkup (renderFromC pal i s ++ htmlSuffixC) false = s.map AA.toChar := by
    induction s with
    | nil => exact fun _ => strip_lit_tag htmlSuffixC [] rfl (by decide)
    | cons a rest ih =>
      intro i
      rw [renderFromC, List.append_assoc, List.append_assoc, strip_sep, strip_span _ _ (hpal a), ih, List.map_cons]
  rw [renderC, List.append_assoc, strip_lit_tag htmlPrefixC _ rfl (by decide)]
  exact gen 0

theorem checkPalette_eq_some_iff (d : PyDict) (p : Palette) :
    checkPalette d = some p ↔
      (∀ a ∈ AA.all, ∃ c, d.get? (String.singleton a.toChar) = some c ∧ c ∈ htmlColours) ∧
        (fun a => (d.get? (String.singleton a.toChar)).getD "") = p := by
  rw [checkPalette, Option.ite_none_right_eq_some, Option.some_inj, List.all_eq_true]
  refine and_congr_left' (forall₂_congr fun a _ => ?_)
  cases d.get? (String.singleton a.toChar) <;> simp

/-- a dictionary is accepted exactly when each of the 20 one-letter codes is bound to one of the 17
    standard HTML colour names -/
theorem checkPalette_ok_iff (d : PyDict) :
    (checkPalette d).isSome ↔
      ∀ a ∈ AA.all, ∃ c, d.get? (String.singleton a.toChar) = some c ∧ c ∈ htmlColours := by
  rw [Option.isSome_iff_exists]
  simp only [checkPalette_eq_some_iff]
  exact ⟨fun ⟨_, h, _⟩ => h, fun h => ⟨_, h, rfl⟩⟩

/-- the accepted palette gives every residue the colour bound to it -/
theorem checkPalette_value (d : PyDict) (p : Palette) (h : checkPalette d = some p) (a : AA) :
    ∃ c, d.get? (String.singleton a.toChar) = some c ∧ c ∈ htmlColours ∧ p a = c := by
  obtain ⟨hall, rfl⟩ := (checkPalette_eq_some_iff d p).mp h
  obtain ⟨c, hc, hm⟩ := hall a (AA.mem_all a)
  exact ⟨c, hc, hm, by simp only [hc, Option.getD_some]⟩

/-- a rejected dictionary leaves the palette unchanged; an accepted one replaces it -/
theorem setPalette_frame (cur : Palette) (d : PyDict) :
    ((setPalette cur d).2 = false → (setPalette cur d).1 = cur) ∧
    ((setPalette cur d).2 = true → checkPalette d = some (setPalette cur d).1) := by
  unfold setPalette
  cases checkPalette d <;> simp

/-- after any series of updates the palette is the last accepted one, or the initial one if none was
    accepted; rendering uses exactly that palette -/
theorem palette_history (init : Palette) (ds : List PyDict) :
    ds.foldl (fun p d => (setPalette p d).1) init =
      match (ds.filterMap checkPalette).getLast? with
      | some p => p
      | none => init := by
  induction ds generalizing init with
  | nil => rfl
  | cons d rest ih =>
    rw [List.foldl_cons, ih, setPalette]
    cases h : checkPalette d with
    | none => rw [List.filterMap_cons_none h]
    | some p =>
      rw [List.filterMap_cons_some h, List.getLast?_cons]
      cases (rest.filterMap checkPalette).getLast? <;> rfl

/-- the documented list has 17 distinct names, none containing '>' -/
theorem htmlColours_facts :
    htmlColours.length = 17 ∧ htmlColours.Nodup ∧ ∀ c ∈ htmlColours, ∀ x ∈ c.toList, x ≠ '>' := by
  refine ⟨rfl, by decide +kernel, by decide +kernel⟩

end Cider.C20
