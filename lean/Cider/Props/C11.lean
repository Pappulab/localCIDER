/-
  C11 — complexity profiles: window count, positions, range, locality (discrete part).
  The entropy statements over ℝ are in Cider.Props.C11Real.
-/
import Cider.Model.Profiles
import Mathlib.Algebra.Order.Field.Rat
import Mathlib.Algebra.Order.Field.Basic
import Mathlib.Data.List.Basic
import Mathlib.Data.List.Dedup
import Mathlib.Data.List.Perm.Subperm

namespace Cider.C11
open Cider

theorem windowsStep_of_lt {α : Type} (w st : Nat) (l : List α) (h : l.length < w) : windowsStep w st l = [] := by
  rw [windowsStep, stepStarts, if_pos h]; rfl

theorem windowsStep_of_le {α : Type} (w st : Nat) (l : List α) (hw : w ≤ l.length) :
    windowsStep w st l = (List.range ((l.length - w) / st + 1)).map (fun i => (l.drop (i * st)).take w) := by
  rw [windowsStep, stepStarts, if_neg (by omega), List.map_map]; rfl

theorem windowsStep_getElem? {α : Type} (w st : Nat) (l : List α) (i : Nat) :
    (windowsStep w st l)[i]? =
      if w ≤ l.length ∧ i < (l.length - w) / st + 1 then some ((l.drop (i * st)).take w) else none := by
  by_cases hw : w ≤ l.length
  · rw [windowsStep_of_le w st l hw]
    by_cases hi : i < (l.length - w) / st + 1 <;> simp [hw, hi]
  · simp [windowsStep_of_lt w st l (by omega), hw]

/-- K = floor((N − w)/s) + 1 windows for every window w ≤ N and step s ≥ 1 -/
theorem window_count {α : Type} (w st : Nat) (l : List α) (hw : w ≤ l.length) :
    (windowsStep w st l).length = (l.length - w) / st + 1 := by
  rw [windowsStep_of_le w st l hw, List.length_map, List.length_range]

/-- the i-th window is the slice [i·s, i·s + w) of the (reduced) sequence, of full length w -/
theorem windows_are_slices {α : Type} (w st : Nat) (l : List α) (hw : w ≤ l.length) (hst : 1 ≤ st) (i : Nat)
    (hi : i < (l.length - w) / st + 1) :
    (windowsStep w st l)[i]? = some ((l.drop (i * st)).take w) ∧ ((l.drop (i * st)).take w).length = w := by
  refine ⟨by rw [windowsStep_getElem?, if_pos ⟨hw, hi⟩], List.length_take_of_le ?_⟩
  have h : i * st ≤ l.length - w :=
    (Nat.mul_le_mul_right _ (Nat.le_of_lt_succ hi)).trans (Nat.div_mul_le_self _ _)
  rw [List.length_drop]; omega

/-- each value depends only on the residues of its own window: two (reduced) sequences that agree on
    the slice produce the same i-th window, hence the same i-th value for any window statistic -/
theorem value_local {α β : Type} (stat : List α → β) (w st : Nat) (l l' : List α) (i : Nat)
    (hagree : (l.drop (i * st)).take w = (l'.drop (i * st)).take w)
    (hlen : l.length = l'.length) :
    ((windowsStep w st l).map stat)[i]? = ((windowsStep w st l').map stat)[i]? := by
  simp only [List.getElem?_map, windowsStep_getElem?, hlen, hagree]

/-- under the window guard `len(seq) < w` (the test of the linear profiles) there is no window to evaluate;
    the rejection itself, also of an unknown complexity type, is the driver's (Driver.lean, "cplx") -/
theorem complexity_rejects_type_and_window (w st : Nat) (l : Seq) (h : l.length < w) :
    windowsStep w st l = [] :=
  windowsStep_of_lt w st l h

/-- the position row has exactly K entries (so the `vstack` with the K values is well shaped) -/
theorem positions_length (K N : Nat) : (complexityPositions K N).length = K := by
  rw [complexityPositions, List.length_map, List.length_range]

/-- positions are strictly increasing whenever there are at most N windows (always: K ≤ N − w + 1 ≤ N) -/
theorem positions_strictMono (K N : Nat) (hK : 1 ≤ K) (hKN : K ≤ N) :
    (complexityPositions K N).Pairwise (· < ·) := by
  have hsp : 0 < N / K := Nat.div_pos hKN hK
  rw [complexityPositions, List.pairwise_map]
  refine List.pairwise_lt_range.imp fun {a b} hab => ?_
  have : a * (N / K) < b * (N / K) := Nat.mul_lt_mul_of_pos_right hab hsp
  omega

theorem position_range (fl sp K i N : Nat) (hfl : fl ≤ N - sp * K) (hsp : 0 < sp) (hfit : sp * K ≤ N) (hi : i < K) :
    1 ≤ fl + 1 + sp / 2 + i * sp ∧ fl + 1 + sp / 2 + i * sp ≤ N := by
  have h : (i + 1) * sp ≤ K * sp := Nat.mul_le_mul_right sp hi
  rw [Nat.succ_mul, Nat.mul_comm K] at h
  omega

/-- every position lies within 1..N -/
theorem positions_in_range (K N : Nat) (hK : 1 ≤ K) (hKN : K ≤ N) :
    ∀ p ∈ complexityPositions K N, 1 ≤ p ∧ p ≤ N := by
  intro p hp
  simp only [complexityPositions, List.mem_map, List.mem_range] at hp
  obtain ⟨i, hi, rfl⟩ := hp
  refine position_range _ _ _ _ _ ?_ (Nat.div_pos hKN hK) (Nat.div_mul_le_self N K) hi
  split
  · exact Nat.div_le_self _ _
  · exact (Nat.div_le_self _ _).trans (Nat.sub_le _ _)

theorem dedup_eq {α : Type} [DecidableEq α] (l : List α) : dedup l = l.dedup := by
  induction l with
  | nil => rfl
  | cons a t ih => rw [dedup, ih, List.dedup_cons']

/-- all words of length k over a list of letters -/
def allWords {α : Type} (alph : List α) : Nat → List (List α)
  | 0 => [[]]
  | k + 1 => alph.flatMap (fun a => (allWords alph k).map (a :: ·))

theorem allWords_length {α : Type} (alph : List α) (k : Nat) : (allWords alph k).length = alph.length ^ k := by
  induction k with
  | zero => rfl
  | succ n ih =>
    rw [allWords, List.length_flatMap]
    simp only [List.length_map, ih, List.map_const', List.sum_replicate_nat, Nat.pow_succ, Nat.mul_comm]

theorem mem_allWords {α : Type} (alph : List α) (wd : List α) (hm : ∀ x ∈ wd, x ∈ alph) :
    wd ∈ allWords alph wd.length := by
  induction wd with
  | nil => exact List.mem_singleton_self _
  | cons a t ih =>
    obtain ⟨ha, ht⟩ := List.forall_mem_cons.mp hm
    simp only [List.length_cons, allWords, List.mem_flatMap, List.mem_map]
    exact ⟨a, ha, t, ih ht, rfl⟩

theorem nodup_words_length_le {α : Type} (alph : List α) (k : Nat) (D : List (List α)) (hnd : D.Nodup)
    (hD : ∀ wd ∈ D, wd.length = k ∧ ∀ x ∈ wd, x ∈ alph) : D.length ≤ alph.length ^ k := by
  rw [← allWords_length]
  exact (List.subperm_of_subset hnd fun wd hwd => (hD wd hwd).1 ▸ mem_allWords alph wd (hD wd hwd).2).length_le

theorem natCast_div_range (a b : Nat) (hb : 0 < b) (h : a ≤ b) : 0 ≤ (a : Rat) / b ∧ (a : Rat) / b ≤ 1 :=
  ⟨div_nonneg (Nat.cast_nonneg a) (Nat.cast_nonneg b),
    (div_le_one (Nat.cast_pos.mpr hb)).mpr (Nat.cast_le.mpr h)⟩

/-- linguistic complexity of a window over alphabet letters lies in [0,1]: the number of distinct
    words is bounded by both |A|^wordSize and the number of word positions -/
theorem lc_range (alphabet : List AA) (wordSize w : Nat) (win : Seq) (hw : 1 ≤ w) (hws : 1 ≤ wordSize)
    (hlen : win.length = w) (hA : 1 ≤ alphabet.length) (hletters : ∀ x ∈ win, x ∈ alphabet) :
    0 ≤ lcWindow alphabet.length wordSize w win ∧ lcWindow alphabet.length wordSize w win ≤ 1 := by
  unfold lcWindow
  simp only [dedup_eq]
  apply natCast_div_range
  · have : 0 < alphabet.length ^ wordSize := Nat.pow_pos hA
    omega
  · refine Nat.le_min.mpr ⟨nodup_words_length_le alphabet wordSize _ (List.nodup_dedup _) ?_, ?_⟩
    · intro wd hwd
      simp only [List.mem_dedup, List.mem_map, List.mem_range] at hwd
      obtain ⟨i, hi, rfl⟩ := hwd
      refine ⟨?_, fun x hx => hletters x (List.mem_of_mem_drop (List.mem_of_mem_take hx))⟩
      rw [List.length_take, List.length_drop]; omega
    · refine (List.dedup_sublist _).length_le.trans ?_
      rw [List.length_map, List.length_range]; omega

theorem lzwScan_length (l cur : List AA) (seen : List (List AA)) :
    (lzwScan l cur seen).length ≤ seen.length + l.length := by
  induction l generalizing cur seen with
  | nil => exact Nat.le_refl _
  | cons c rest ih =>
    rw [lzwScan, List.length_cons]
    split
    · exact (ih _ _).trans (by omega)
    · exact (ih _ _).trans (by rw [List.length_cons]; omega)

/-- the LZW-style value lies in [0,1]: at most one dictionary entry is added per residue -/
theorem lzw_range (w : Nat) (win : Seq) (hw : 1 ≤ w) (hlen : win.length = w) :
    0 ≤ lzwWindow w win ∧ lzwWindow w win ≤ 1 := by
  apply natCast_div_range _ _ hw
  have := lzwScan_length win [] []
  rwa [List.length_nil, Nat.zero_add, hlen] at this

end Cider.C11
