/-
  C06 — Omega and kappa_X are kappa of the recoded sequence.
-/
import Cider.Props.C05

namespace Cider.C06
open Cider

def mem (c : Char) : PyMember := .str [c]

/-- get_Omega is the kappa of the two-letter recoding (P,E,D,K,R versus everything else) -/
theorem omega_eq_kappa_recode (s : Seq) :
    omega specTables s = kappa (recode1 [.P, .E, .D, .K, .R] s) := by
  unfold omega omegaPattern recode1
  congr 1
  apply List.map_congr_left
  intro a _
  cases a <;> rfl

/-- … and equals get_kappa_X(['P','E','D','K','R']) -/
theorem omega_eq_kappaX_PEDKR (s : Seq) :
    kappaX [mem 'P', mem 'E', mem 'D', mem 'K', mem 'R'] none s = .ok (omega specTables s) := by
  rw [omega_eq_kappa_recode]; rfl

/-- get_kappa equals get_kappa_X(['E','D'],['K','R']) -/
theorem kappa_eq_kappaX_ED_KR (s : Seq) :
    kappaX [mem 'E', mem 'D'] (some [mem 'K', mem 'R']) s = .ok (seqKappa specTables s) := by
  have : recode2 [.E, .D] [.K, .R] s = patternOf specTables s := by
    unfold recode2 patternOf
    apply List.map_congr_left
    intro a _
    cases a <;> rfl
  unfold seqKappa; rw [← this]; rfl

/-- recoding only looks at membership: groups that are equal as sets recode identically -/
theorem recode_set_ext (a a' b b' : List AA) (s : Seq)
    (h1 : ∀ x, x ∈ a ↔ x ∈ a') (h2 : ∀ x, x ∈ b ↔ x ∈ b') :
    recode1 a s = recode1 a' s ∧ recode2 a b s = recode2 a' b' s := by
  constructor
  · unfold recode1; apply List.map_congr_left; intro x _; simp only [h1 x]
  · unfold recode2; apply List.map_congr_left; intro x _; simp only [h1 x, h2 x]

/-- member order, repetition and letter case do not matter: if the two group arguments parse to the
    same sets the result is the same (upper-casing is part of parsing) -/
theorem kappaX_member_order_case (g1 g1' : List PyMember) (g2 g2' : Option (List PyMember)) (s : Seq)
    (a a' : List AA) (h1 : parseGroup g1 = .ok a) (h1' : parseGroup g1' = .ok a') (ha : ∀ x, x ∈ a ↔ x ∈ a')
    (hshape : (g2 = none ∨ g2 = some []) ∧ (g2' = none ∨ g2' = some []) ∨
      (∃ m m' b b', g2 = some m ∧ g2' = some m' ∧ m ≠ [] ∧ m' ≠ [] ∧
        parseGroup m = .ok b ∧ parseGroup m' = .ok b' ∧ ∀ x, x ∈ b ↔ x ∈ b')) :
    kappaX g1 g2 s = kappaX g1' g2' s := by
  rcases hshape with ⟨hA, hB⟩ | ⟨m, m', b, b', e, e', hm, hm', hb, hb', hbb⟩
  · have r := (recode_set_ext a a' [] [] s ha (fun _ => Iff.rfl)).1
    rcases hA with rfl | rfl <;> rcases hB with rfl | rfl <;> simp [kappaX, h1, h1', r]
  · subst e e'
    have r := (recode_set_ext a a' b b' s ha hbb).2
    cases m with
    | nil => exact absurd rfl hm
    | cons x xs =>
      cases m' with
      | nil => exact absurd rfl hm'
      | cons y ys => simp [kappaX, h1, h1', hb, hb', r]

theorem asciiUpper_examples : asciiUpper 'k' = 'K' ∧ asciiUpper 'K' = 'K' ∧ asciiUpper 'z' = 'Z' ∧ asciiUpper '1' = '1' := by
  decide

/-- swapping two DISJOINT groups inverts the recoded pattern, so kappa_X is unchanged
    (for overlapping groups the first group wins in the code, and the swap is not an inversion) -/
theorem kappaX_swap (a b : List AA) (s : Seq) (hdisj : ∀ x, x ∈ a → x ∉ b) :
    kappa (recode2 b a s) = kappa (recode2 a b s) := by
  have : recode2 b a s = neg (recode2 a b s) := by
    unfold recode2 neg
    rw [List.map_map]
    apply List.map_congr_left
    intro x _
    by_cases h1 : x ∈ a
    · have h2 : x ∉ b := hdisj x h1
      simp [h1, h2]
    · by_cases h2 : x ∈ b <;> simp [h1, h2]
  rw [this, Cider.C05.kappa_negate]

/-- a one-group call equals the call with the complementary group -/
theorem kappaX_complement (a a' : List AA) (s : Seq) (hc : ∀ x, x ∈ a' ↔ x ∉ a) :
    kappa (recode1 a' s) = kappa (recode1 a s) := by
  have : recode1 a' s = neg (recode1 a s) := by
    unfold recode1 neg
    rw [List.map_map]
    apply List.map_congr_left
    intro x _
    by_cases h1 : x ∈ a
    · have : x ∉ a' := fun h => (hc x).mp h h1
      simp [h1, this]
    · have : x ∈ a' := (hc x).mpr h1
      simp [h1, this]
  rw [this, Cider.C05.kappa_negate]

/-- a group is rejected exactly when some member is not (after upper-casing) one of the 20 letters -/
theorem kappaX_rejects (g : List PyMember) :
    (∃ e, parseGroup g = .error e) ↔ ∃ m ∈ g, memberAA? m = none := by
  rw [← mapM_eq_none_iff, parseGroup]
  cases g.mapM memberAA? <;> simp

/-- get_Omega_sequence has X at exactly the P/E/D/K/R positions and O elsewhere, same length -/
theorem omegaSeq_spec (s : Seq) :
    (omegaSeq specTables s).toList = s.map (fun a => if a = .P ∨ a = .E ∨ a = .D ∨ a = .K ∨ a = .R then 'X' else 'O') := by
  unfold omegaSeq
  rw [String.toList_ofList]
  apply List.map_congr_left
  intro a _
  cases a <;> rfl

/-! non-vacuity: mixed case and order; an invalid member -/
example : parseGroup [.str ['k'], .str ['R']] = .ok [.K, .R] := by decide
example : parseGroup [.str ['B']] = .error .badGroup ∧ parseGroup [.str ['A', 'B']] = .error .badGroup ∧
    parseGroup [.nonStr] = .error .badGroup := by decide

end Cider.C06
