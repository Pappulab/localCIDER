/-
  C13 — sequence strings are normalised or rejected, never silently altered.
  `upper` / `isspace` are parameters: the theorems hold for ANY such pair.
-/
import Cider.Model.Text
import Cider.Lemmas.Alphabet
import Cider.Lemmas.Except
import Mathlib.Tactic.Basic
import Mathlib.Data.List.Basic

namespace Cider.C13
open Cider

theorem validateChars_eq (ops : CharOps) (cs : List Char) :
    validateChars ops cs =
      if cs.all (fun c => (AA.ofChar? c).isSome || ops.isspace c) then .ok (cs.filterMap AA.ofChar?)
      else .error .invalidResidue := by
  induction cs with
  | nil => rfl
  | cons c cs ih =>
    rw [validateChars, ih, List.all_cons, List.filterMap_cons]
    cases AA.ofChar? c with
    | none => cases ops.isspace c <;> rfl
    | some a => cases cs.all _ <;> rfl

/-- the loop over the (already upper-cased) characters accepts iff every character is one of the 20
    letters or white space, and then returns exactly the letters, in order -/
theorem validateChars_ok_iff (ops : CharOps) (cs : List Char) (w : Seq) :
    validateChars ops cs = .ok w ↔
      (∀ c ∈ cs, (AA.ofChar? c).isSome ∨ ops.isspace c = true) ∧ w = cs.filterMap AA.ofChar? := by
  rw [validateChars_eq, Except.ite_error_right_eq_ok, Except.ok.injEq, List.all_eq_true, eq_comm (b := w)]
  simp only [Bool.or_eq_true]

theorem ofChars?_eq (l : List Char) :
    Seq.ofChars? l =
      if l.all (fun c => (AA.ofChar? c).isSome) then some (l.filterMap AA.ofChar?) else none := by
  induction l with
  | nil => rfl
  | cons c cs ih =>
    rw [Seq.ofChars?, ih, List.all_cons, List.filterMap_cons]
    cases AA.ofChar? c with
    | none => rfl
    | some a => cases cs.all _ <;> rfl

theorem ofChars?_eq_some_iff (l : List Char) (w : Seq) :
    Seq.ofChars? l = some w ↔ (∀ c ∈ l, (AA.ofChar? c).isSome) ∧ w = l.filterMap AA.ofChar? := by
  rw [ofChars?_eq, Option.ite_none_right_eq_some, List.all_eq_true, Option.some_inj, eq_comm]

theorem filterMap_nonspace (ops : CharOps)
    (hsp : ∀ c, (AA.ofChar? c).isSome → ops.isspace c = false) (cs : List Char) :
    (cs.filter (fun c => !ops.isspace c)).filterMap AA.ofChar? = cs.filterMap AA.ofChar? := by
  rw [List.filterMap_filter]
  apply List.filterMap_congr
  intro c _
  cases hc : AA.ofChar? c with
  | none => exact ite_self none
  | some a => rw [hsp c (by rw [hc]; rfl)]; rfl

/-- the loop is "delete the white space, then parse what is left as a word over the 20 letters" -/
theorem validateChars_ok_iff_parse (ops : CharOps)
    (hsp : ∀ c, (AA.ofChar? c).isSome → ops.isspace c = false) (cs : List Char) (w : Seq) :
    validateChars ops cs = .ok w ↔ Seq.ofChars? (cs.filter (fun c => !ops.isspace c)) = some w := by
  rw [validateChars_ok_iff, ofChars?_eq_some_iff, filterMap_nonspace ops hsp, List.forall_mem_filter]
  refine and_congr_left' (forall₂_congr fun c _ => ?_)
  cases ops.isspace c <;> simp

/-- "after upper-casing and deleting whitespace the string is a word over the 20 letters":
    the letters returned are the parse of the non-white-space characters -/
theorem letters_eq_parse_of_nonspace (ops : CharOps)
    (hsp : ∀ c, (AA.ofChar? c).isSome → ops.isspace c = false) (cs : List Char) :
    (∀ c ∈ cs, (AA.ofChar? c).isSome ∨ ops.isspace c = true) ↔
      Seq.ofChars? (cs.filter (fun c => !ops.isspace c)) = some (cs.filterMap AA.ofChar?) := by
  rw [← validateChars_ok_iff_parse ops hsp, validateChars_ok_iff, and_iff_left rfl]

theorem nonEmptyOrFail_ok_iff (r : Except Err Seq) (w : Seq) :
    nonEmptyOrFail r = .ok w ↔ r = .ok w ∧ w ≠ [] := by
  match r with
  | .error e => exact ⟨nofun, fun h => nomatch h.1⟩
  | .ok [] => exact ⟨nofun, fun ⟨h, hw⟩ => absurd (Except.ok.inj h).symm hw⟩
  | .ok (a :: v) => exact ⟨fun h => ⟨h, by rintro rfl; cases h⟩, And.left⟩

/-- **construction succeeds exactly when the normalised string is a non-empty word over the 20
    letters, and the object then holds exactly that word** -/
theorem construct_ok_iff (ops : CharOps)
    (hsp : ∀ c, (AA.ofChar? c).isSome → ops.isspace c = false) (cs : List Char) (w : Seq) :
    construct ops (.str cs) = .ok w ↔
      w ≠ [] ∧ Seq.ofChars? ((cs.flatMap ops.upper).filter (fun c => !ops.isspace c)) = some w := by
  cases cs with
  | nil => exact ⟨nofun, fun ⟨h1, h2⟩ => absurd (Option.some.inj h2).symm h1⟩
  | cons c rest => rw [construct, nonEmptyOrFail_ok_iff, validateChars_ok_iff_parse ops hsp, and_comm]

/-- everything else is rejected: non-strings, the empty string, strings that normalise to nothing -/
theorem construct_never_empty (ops : CharOps) (v : PyVal) : construct ops v ≠ .ok [] := by
  match v with
  | .other => nofun
  | .str [] => nofun
  | .str (c :: cs) => exact fun h => ((nonEmptyOrFail_ok_iff _ _).mp h).2 rfl

theorem construct_rejects_nonstring (ops : CharOps) : construct ops .other = .error .notAString := rfl
theorem construct_rejects_empty (ops : CharOps) : construct ops (.str []) = .error .emptyInput := rfl

theorem validateChars_letters (ops : CharOps) (w : Seq) : validateChars ops (w.map AA.toChar) = .ok w := by
  induction w with
  | nil => rfl
  | cons a r ih => rw [List.map_cons, validateChars, AA.ofChar?_toChar, ih]

/-- a normalised word is a fixed point: constructing from it gives the same word back -/
theorem construct_idempotent (ops : CharOps) (hup : ∀ a : AA, ops.upper a.toChar = [a.toChar])
    (w : Seq) (hw : w ≠ []) : construct ops (.str (w.map AA.toChar)) = .ok w := by
  have hfl : (w.map AA.toChar).flatMap ops.upper = w.map AA.toChar := by
    rw [List.flatMap_map, List.map_eq_flatMap]; exact List.flatMap_congr fun a _ => hup a
  cases w with
  | nil => exact absurd rfl hw
  | cons a r => rw [List.map_cons, construct, ← List.map_cons, hfl, validateChars_letters]; rfl

end Cider.C13
