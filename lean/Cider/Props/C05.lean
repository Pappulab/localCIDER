/-
  C05 — patterning parameters see only charge classes; reversal / inversion invariance.
-/
import Cider.Lemmas.Symm
import Cider.Lemmas.Counts
import Cider.Props.C07
import Cider.Model.TablesSpec

namespace Cider.C05
open Cider

theorem delta_reverse (p : Pattern) : delta p.reverse = delta p := Cider.delta_reverse p
theorem delta_negate (p : Pattern) : delta (neg p) = delta p := Cider.delta_neg p

theorem dmax_reverse (p : Pattern) : dmax p.reverse = dmax p := by
  unfold dmax; rw [countPos_reverse, countNeg_reverse, countNeut_reverse]

/-- delta-max is unchanged by exchanging + and − (the documented family is closed under inversion) -/
theorem dmax_negate (p : Pattern) : dmax (neg p) = dmax p := by
  unfold dmax; rw [countPos_neg, countNeg_neg, countNeut_neg, dmaxComp_swap]

theorem kappa_reverse (p : Pattern) : kappa p.reverse = kappa p := by
  unfold kappa; rw [delta_reverse, dmax_reverse]

theorem kappa_negate (p : Pattern) : kappa (neg p) = kappa p := by
  unfold kappa; rw [delta_negate, dmax_negate]

theorem scd_reverse (p : Pattern) : scdLoop p.reverse = scdLoop p := Cider.C07.scd_reverse p
theorem scd_negate (p : Pattern) : scdLoop (neg p) = scdLoop p := Cider.C07.scd_negate p

/-- kappa, delta, delta-max and SCD are unchanged when any residue is replaced by another of the same
    charge class (K↔R, D↔E, neutral↔neutral), at any set of positions -/
theorem class_substitution (T : Tables) (s t : Seq)
    (h : List.Forall₂ (fun a b => T.charge a = T.charge b) s t) :
    seqKappa T s = seqKappa T t ∧ seqDelta T s = seqDelta T t ∧ seqDmax T s = seqDmax T t ∧
    scdLoop (patternOf T s) = scdLoop (patternOf T t) := by
  rw [seqKappa, seqDelta, seqDmax, patternOf_congr T h]
  exact ⟨rfl, rfl, rfl, rfl⟩

/-- the published charge classes are exactly {K,R}, {D,E} and the other sixteen -/
theorem published_classes (a b : AA) :
    Spec.charge a = Spec.charge b ↔
      ((a = .K ∨ a = .R) ∧ (b = .K ∨ b = .R)) ∨ ((a = .D ∨ a = .E) ∧ (b = .D ∨ b = .E)) ∨
      ((a ≠ .K ∧ a ≠ .R ∧ a ≠ .D ∧ a ≠ .E) ∧ (b ≠ .K ∧ b ≠ .R ∧ b ≠ .D ∧ b ≠ .E)) := by
  -- each class is a value of the table, and the table takes no other value
  have key : ∀ c : AA, (Spec.charge c = 1 ↔ c = .K ∨ c = .R) ∧ (Spec.charge c = -1 ↔ c = .D ∨ c = .E) ∧
      (Spec.charge c = 0 ↔ c ≠ .K ∧ c ≠ .R ∧ c ≠ .D ∧ c ≠ .E) := by intro c; cases c <;> decide
  have tri : ∀ c : AA, Spec.charge c = 1 ∨ Spec.charge c = -1 ∨ Spec.charge c = 0 := by
    intro c; cases c <;> decide
  rw [← (key a).1, ← (key a).2.1, ← (key a).2.2, ← (key b).1, ← (key b).2.1, ← (key b).2.2]
  have := tri a; have := tri b
  omega

/-- Omega is unchanged by replacements within {P,E,D,K,R} or within the other fifteen residues -/
theorem omega_class_substitution (T : Tables) (s t : Seq)
    (h : List.Forall₂ (fun a b => T.omegaX a = T.omegaX b) s t) : omega T s = omega T t := by
  rw [omega, omegaPattern, map_eq_map_of_forall₂ (h.imp fun _ _ hab => by rw [hab])]; rfl

theorem published_omega_class (a : AA) :
    Spec.omegaX a = true ↔ (a = .P ∨ a = .E ∨ a = .D ∨ a = .K ∨ a = .R) := by
  cases a <;> decide

theorem patternOf_reverse (T : Tables) (s : Seq) : patternOf T s.reverse = (patternOf T s).reverse := by
  unfold patternOf; rw [List.map_reverse]

/-- all five parameters are unchanged by reversing the sequence -/
theorem reversal (T : Tables) (s : Seq) :
    seqKappa T s.reverse = seqKappa T s ∧ seqDelta T s.reverse = seqDelta T s ∧
    seqDmax T s.reverse = seqDmax T s ∧ scdLoop (patternOf T s.reverse) = scdLoop (patternOf T s) ∧
    omega T s.reverse = omega T s := by
  unfold seqKappa seqDelta seqDmax omega
  rw [patternOf_reverse, kappa_reverse, delta_reverse, dmax_reverse, scd_reverse]
  refine ⟨rfl, rfl, rfl, rfl, ?_⟩
  have : omegaPattern T s.reverse = (omegaPattern T s).reverse := by
    unfold omegaPattern; rw [List.map_reverse]
  rw [this, kappa_reverse]

theorem chargeSign_neg (c : Int) : chargeSign (-c) = -chargeSign c := by
  unfold chargeSign; split_ifs <;> omega

/-- kappa, delta, delta-max and SCD are unchanged by exchanging every positive residue with a negative
    one and vice versa (neutral residues staying neutral) -/
theorem inversion (T : Tables) (s t : Seq)
    (h : List.Forall₂ (fun a b => T.charge b = -T.charge a) s t) :
    seqKappa T t = seqKappa T s ∧ seqDelta T t = seqDelta T s ∧ seqDmax T t = seqDmax T s ∧
    scdLoop (patternOf T t) = scdLoop (patternOf T s) := by
  have : patternOf T t = neg (patternOf T s) := by
    rw [neg, patternOf, patternOf, List.map_map]
    exact (map_eq_map_of_forall₂ (h.imp fun a b hab => by rw [Function.comp, hab, chargeSign_neg])).symm
  rw [seqKappa, seqDelta, seqDmax, this, kappa_negate, delta_negate, dmax_negate, scd_negate]
  exact ⟨rfl, rfl, rfl, rfl⟩

/-- Omega is unchanged by that exchange: K, R, D, E all stay inside the P/E/D/K/R class and the
    uncharged residues are not touched -/
theorem omega_inversion (s t : Seq)
    (h : List.Forall₂ (fun a b => Spec.charge b = -Spec.charge a ∧ (Spec.charge a = 0 → b = a)) s t) :
    omega specTables t = omega specTables s := by
  -- a charged residue and its charged replacement are both in the P/E/D/K/R class; the others stay
  have charged : ∀ a : AA, Spec.charge a ≠ 0 → Spec.omegaX a = true := by intro a; cases a <;> decide
  have : omegaPattern specTables t = omegaPattern specTables s := by
    rw [omegaPattern, omegaPattern]
    refine (map_eq_map_of_forall₂ (h.imp fun a b hab => ?_)).symm
    by_cases h0 : Spec.charge a = 0
    · rw [hab.2 h0]
    · rw [show specTables.omegaX a = true from charged a h0,
        show specTables.omegaX b = true from charged b (by rw [hab.1]; omega)]
  rw [omega, this]; rfl

end Cider.C05
