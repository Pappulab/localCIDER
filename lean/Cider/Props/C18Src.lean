/-
  Cider.Props.C18Src — source-text tie for C18: `WangLandauMachine.indexInsideRelevantRegion` as `tools/pyexpr2lean.py` translates it
  from the live SOURCE on every run (Gen/Decisions.lean) agrees, for every bin index and every
  relevant range, with the hand-written model the C18 theorems are about.  A changed threshold, comparison direction, branch
  order or returned value in the source breaks a proof here.
-/
import Cider.Gen.Decisions
import Cider.Model.WL
import Mathlib.Algebra.Order.Field.Rat
namespace Cider.C18Src
open Cider

/-- `indexInsideRelevantRegion` as written today IS `WLCfg.inside` (C18). -/
theorem insideRelevant_eq (cfg : WLCfg) (i : Nat) :
    Gen.insideRelevant (i : Rat) (cfg.rmax : Rat) (cfg.rmin : Rat) = .ok (if cfg.inside i then 1 else 0) := by
  unfold Gen.insideRelevant WLCfg.inside
  simp only [← apply_ite Except.ok, Bool.and_eq_true, decide_eq_true_eq, ge_iff_le, Nat.cast_le, and_comm]

end Cider.C18Src
