/-
  C03 — delta-max is attained, composition-only, and matches the documented search.
-/
import Cider.Lemmas.Dmax
import Cider.Lemmas.Deal
import Cider.Lemmas.Counts
import Cider.Props.C02
import Cider.Model.TablesSpec

namespace Cider.C03
open Cider

/-- whenever a charged residue exists the documented family is non-empty … -/
theorem candidates_nonempty (np nn n0 : Nat) (h : 0 < np + nn) : candidates np nn n0 ≠ [] :=
  Cider.candidates_nonempty np nn n0 h

/-- … and every member is an arrangement of exactly that composition (so the code's
    "Error in DeltaMax calculation" raises are dead) -/
theorem candidates_composition (np nn n0 : Nat) :
    ∀ c ∈ candidates np nn n0, countPos c = np ∧ countNeg c = nn ∧ countNeut c = n0 :=
  fun c hc => (candidates_spec np nn n0 c hc).1

theorem dmax_nonneg (np nn n0 : Nat) : 0 ≤ dmaxComp np nn n0 := by
  by_cases h : np + nn = 0
  · rw [dmaxComp_of_uncharged h]
  · obtain ⟨_, c, _, e, _⟩ := dmaxComp_spec np nn n0 (by omega)
    rw [← e]; exact Cider.delta_nonneg c

/-- **delta-max is the largest delta of the documented family**: an upper bound of every candidate's
    delta, attained by a candidate — for every composition with a charged residue; 0 otherwise -/
theorem dmax_eq_family_max (np nn n0 : Nat) :
    (np + nn = 0 → dmaxComp np nn n0 = 0) ∧
    (0 < np + nn →
      (∀ c ∈ candidates np nn n0, delta c ≤ dmaxComp np nn n0) ∧
      (∃ c ∈ candidates np nn n0, delta c = dmaxComp np nn n0 ∧ dmaxArgComp np nn n0 = some c)) := by
  constructor
  · exact fun h => dmaxComp_of_uncharged h n0
  · intro h; exact dmaxComp_spec np nn n0 h

/-- delta-max depends only on the numbers of positive, negative and neutral residues -/
theorem dmax_composition_only (T : Tables) (s t : Seq) (h : s.Perm t) : seqDmax T s = seqDmax T t := by
  have hpat : (patternOf T s).Perm (patternOf T t) := h.map _
  unfold seqDmax dmax countPos countNeg countNeut
  rw [hpat.countP_eq, hpat.countP_eq, hpat.countP_eq]

/-- … and is unchanged by replacing residues by others of the same charge class -/
theorem dmax_respelling (T : Tables) (s t : Seq)
    (h : List.Forall₂ (fun a b => T.charge a = T.charge b) s t) : seqDmax T s = seqDmax T t := by
  rw [seqDmax, patternOf_congr T h]; rfl

/-- the three residue lists `permutantFromReduced` deals from have the sizes of the three charge classes -/
theorem filter_lengths (s : Seq) :
    (s.filter (fun a => a = AA.R ∨ a = AA.K)).length = nPos specTables s ∧
    (s.filter (fun a => a = AA.D ∨ a = AA.E)).length = nNeg specTables s ∧
    (s.filter (fun a => ¬ (a = AA.D ∨ a = AA.E ∨ a = AA.R ∨ a = AA.K))).length = nNeut specTables s := by
  simp only [nPos, nNeg, nNeut, countPos, countNeg, countNeut, patternOf, List.countP_map,
    ← List.countP_eq_length_filter]
  refine ⟨?_, ?_, ?_⟩ <;> (congr 1; funext a; cases a <;> rfl)

/-- the sequence returned with delta-max is made of exactly the input's residues -/
theorem permutant_perm (s : Seq) (c : Pattern)
    (h1 : countPos c = nPos specTables s) (h2 : countNeg c = nNeg specTables s)
    (h3 : countNeut c = nNeut specTables s) : (permutantFromReduced c s).Perm s := by
  unfold permutantFromReduced
  obtain ⟨e1, e2, e3⟩ := filter_lengths s
  exact (dealOut_perm c _ _ _ (h1.trans e1.symm) (h2.trans e2.symm) (h3.trans e3.symm)).trans (three_way_perm s)

/-- … and its charge pattern is the candidate it was built from -/
theorem permutant_pattern (s : Seq) (c : Pattern)
    (h1 : countPos c = nPos specTables s) (h2 : countNeg c = nNeg specTables s)
    (h3 : countNeut c = nNeut specTables s) (hc : ∀ x ∈ c, x = 1 ∨ x = -1 ∨ x = 0) :
    patternOf specTables (permutantFromReduced c s) = c := by
  obtain ⟨e1, e2, e3⟩ := filter_lengths s
  rw [permutantFromReduced, patternOf_dealOut specTables c _ _ _ (h1.trans e1.symm) (h2.trans e2.symm)
    (h3.trans e3.symm)]
  · exact (List.map_congr_left fun x hx => by rcases hc x hx with rfl | rfl | rfl <;> rfl).trans (List.map_id c)
  all_goals
    intro a ha
    rw [List.mem_filter] at ha
    revert ha
    cases a <;> simp [specTables, Spec.charge]

/-- **delta-max is attained**: `get_deltaMax(True)`'s sequence is a rearrangement of the input
    whose delta equals the value returned — for every sequence -/
theorem dmax_attained (s : Seq) :
    (dmaxPermutant specTables s).Perm s ∧
    seqDelta specTables (dmaxPermutant specTables s) = seqDmax specTables s := by
  unfold dmaxPermutant seqDmax dmax dmaxArg seqDelta
  by_cases h0 : countPos (patternOf specTables s) + countNeg (patternOf specTables s) = 0
  · -- no charged residue: the sequence itself, delta = 0 = delta-max
    rw [dmaxArgComp_of_uncharged h0, dmaxComp_of_uncharged h0]
    exact ⟨List.Perm.refl _, delta_eq_zero_of_uncharged _ h0⟩
  · obtain ⟨_, c, hc, e1, e2⟩ := dmaxComp_spec _ _ (countNeut (patternOf specTables s)) (Nat.pos_of_ne_zero h0)
    rw [e2]
    obtain ⟨c1, c2, c3⟩ := candidates_composition _ _ _ c hc
    exact ⟨permutant_perm s c c1 c2 c3,
      by rw [permutant_pattern s c c1 c2 c3 (candidates_spec _ _ _ c hc).2, e1]⟩

/-! non-vacuity: the pinned witness of the cache defect, on a fresh object -/
example : dmaxPermutant specTables [.E,.E,.E,.E,.E,.K,.K,.K,.K,.K,.G,.G,.G,.G]
    = [.G,.K,.K,.K,.K,.K,.G,.G,.E,.E,.E,.E,.E,.G] := by decide +kernel
example : seqDmax specTables [.E,.E,.E,.E,.E,.K,.K,.K,.K,.K,.G,.G,.G,.G] = 3817 / 8100 := by decide +kernel

end Cider.C03
