/-
  C15 — read-only queries are history-independent and never change the object.
-/
import Cider.Model.Object
import Cider.Model.Profiles
import Mathlib.Tactic.Basic
import Mathlib.Data.List.Basic

namespace Cider.C15
open Cider

/-- the read-only queries: the three that touch the delta-max cache, and every other getter, which is
    a function of the stored sequence, phosphosite list and palette only -/
inductive Query
  | kappa
  | deltaMax (ret : Bool)
  | kappaAfterPhos
  | pure (f : Seq → List Nat → Palette → String)

inductive QOut
  | rat (q : Rat)
  | dmax (d : Rat) (p : Option Seq)
  | str (s : String)
  deriving DecidableEq

/-- one read-only API call on one object: new object state (cache!) and the value returned -/
def query (T : Tables) (o : Obj) : Query → Obj × QOut
  | .kappa => let r := o.kappa T; (r.1, .rat r.2)
  | .deltaMax ret => let r := o.deltaMax T ret; (r.1, .dmax r.2.1 r.2.2)
  | .kappaAfterPhos => let r := o.kappaAfterPhos T; (r.1, .rat r.2)
  | .pure f => (o, .str (f o.seq o.phos o.pal))

/-- the invariant that makes the cache unobservable: a cached delta-max is the true one, a cached
    permutant is the one a fresh search returns -/
def CacheOK (T : Tables) (o : Obj) : Prop :=
  (o.dmaxC = none ∨ o.dmaxC = some (seqDmax T o.seq)) ∧
  (o.permC = none ∨ (o.permC = some (dmaxPermutant T o.seq) ∧ o.dmaxC = some (seqDmax T o.seq)))

/-- the object a user would get by constructing it anew with the same sequence, sites and palette -/
def freshOf (o : Obj) : Obj := { o with dmaxC := none, permC := none }

theorem cacheOK_fresh (T : Tables) (pal : Palette) (s : Seq) : CacheOK T (Obj.fresh pal s) :=
  ⟨.inl rfl, .inl rfl⟩

theorem cacheOK_freshOf (T : Tables) (o : Obj) : CacheOK T (freshOf o) :=
  ⟨.inl rfl, .inl rfl⟩

theorem freshOf_congr {o o' : Obj} (hs : o.seq = o'.seq) (hp : o.phos = o'.phos) (hl : o.pal = o'.pal) :
    freshOf o = freshOf o' := by
  rw [freshOf, freshOf, hs, hp, hl]

theorem deltaMax_spec (T : Tables) (o : Obj) (h : CacheOK T o) (ret : Bool) :
    let r := o.deltaMax T ret
    r.2.1 = seqDmax T o.seq ∧ r.2.2 = (if ret then some (dmaxPermutant T o.seq) else none) ∧
    r.1.seq = o.seq ∧ r.1.phos = o.phos ∧ r.1.pal = o.pal ∧ CacheOK T r.1 := by
  obtain ⟨h1, h2⟩ := h
  unfold Obj.deltaMax CacheOK
  cases ret with
  | false =>
    rcases h1 with h1 | h1 <;> simpa [h1] using h2.imp_right And.left
  | true =>
    rcases h2 with h2 | ⟨h2, h3⟩
    · simp [h2]
    · simp [h2, h3]

theorem query_state (T : Tables) (o : Obj) (q : Query) :
    (query T o q).1 = o ∨ ∃ ret, (query T o q).1 = (o.deltaMax T ret).1 := by
  cases q with
  | kappa => exact .inr ⟨false, rfl⟩
  | deltaMax ret => exact .inr ⟨ret, rfl⟩
  | kappaAfterPhos =>
    show (o.kappaAfterPhos T).1 = o ∨ ∃ ret, (o.kappaAfterPhos T).1 = (o.deltaMax T ret).1
    unfold Obj.kappaAfterPhos
    split
    exacts [.inr ⟨false, rfl⟩, .inl rfl]
  | pure f => exact .inl rfl

/-- every query keeps the invariant and never touches sequence, phosphosites or palette -/
theorem query_preserves (T : Tables) (o : Obj) (h : CacheOK T o) (q : Query) :
    CacheOK T (query T o q).1 ∧ (query T o q).1.seq = o.seq ∧ (query T o q).1.phos = o.phos ∧
    (query T o q).1.pal = o.pal := by
  rcases query_state T o q with e | ⟨ret, e⟩
  · rw [e]
    exact ⟨h, rfl, rfl, rfl⟩
  · rw [e]
    obtain ⟨-, -, a, b, c, d⟩ := deltaMax_spec T o h ret
    exact ⟨d, a, b, c⟩

theorem query_out_congr (T : Tables) {o o' : Obj} (h : CacheOK T o) (h' : CacheOK T o')
    (hs : o.seq = o'.seq) (hp : o.phos = o'.phos) (hl : o.pal = o'.pal) (q : Query) :
    (query T o q).2 = (query T o' q).2 := by
  have hd : ∀ ret, (o.deltaMax T ret).2 = (o'.deltaMax T ret).2 := fun ret => by
    obtain ⟨a, b, -⟩ := deltaMax_spec T o h ret
    obtain ⟨a', b', -⟩ := deltaMax_spec T o' h' ret
    exact Prod.ext (by rw [a, a', hs]) (by rw [b, b', hs])
  cases q with
  | kappa => simp only [query, Obj.kappa, hd, hs]
  | deltaMax ret => simp only [query, hd]
  | kappaAfterPhos => simp only [query, Obj.kappaAfterPhos, Obj.kappa, apply_ite Prod.snd, hd, hs, hp]
  | pure f => simp only [query, hs, hp, hl]

/-- **the value returned does not depend on what was asked before**: under the invariant every query
    returns what it returns on a freshly constructed object -/
theorem query_out_eq_fresh (T : Tables) (o : Obj) (h : CacheOK T o) (q : Query) :
    (query T o q).2 = (query T (freshOf o) q).2 :=
  query_out_congr T h (cacheOK_freshOf T o) rfl rfl rfl q

/-- a world of live objects; a history is a list of (object index, query) -/
def stepWorld (T : Tables) (w : List Obj) (iq : Nat × Query) : List Obj × Option QOut :=
  match w[iq.1]? with
  | none => (w, none)
  | some o => let r := query T o iq.2; (w.set iq.1 r.1, some r.2)

def runWorld (T : Tables) : List Obj → List (Nat × Query) → List Obj × List (Option QOut)
  | w, [] => (w, [])
  | w, iq :: rest =>
    let r := stepWorld T w iq
    let r' := runWorld T r.1 rest
    (r'.1, r.2 :: r'.2)

def WorldOK (T : Tables) (w : List Obj) : Prop := ∀ o ∈ w, CacheOK T o

/-- what a history returns if every call is made on a brand-new copy of the object it addresses -/
def freshAnswers (T : Tables) (w : List Obj) (hist : List (Nat × Query)) : List (Option QOut) :=
  hist.map (fun iq => (w[iq.1]?).map (fun o => (query T (freshOf o) iq.2).2))

theorem stepWorld_ok (T : Tables) (w : List Obj) (hw : WorldOK T w) (iq : Nat × Query) :
    WorldOK T (stepWorld T w iq).1 ∧ (stepWorld T w iq).1.map freshOf = w.map freshOf ∧
    (stepWorld T w iq).2 = (w[iq.1]?).map (fun o => (query T (freshOf o) iq.2).2) := by
  unfold stepWorld
  cases ho : w[iq.1]? with
  | none => exact ⟨hw, rfl, rfl⟩
  | some o =>
    obtain ⟨hi, rfl⟩ := List.getElem?_eq_some_iff.mp ho
    have hok := hw _ (List.getElem_mem hi)
    obtain ⟨p1, p2, p3, p4⟩ := query_preserves T _ hok iq.2
    refine ⟨fun x hx => ?_, ?_, congrArg some (query_out_eq_fresh T _ hok iq.2)⟩
    · rcases List.mem_or_eq_of_mem_set hx with hx | rfl
      exacts [hw x hx, p1]
    · -- the addressed object is replaced by one with the same fresh copy
      rw [List.map_set, freshOf_congr p2 p3 p4, ← List.map_set, List.set_getElem_self]

theorem freshAnswers_congr (T : Tables) {w w' : List Obj} (h : w.map freshOf = w'.map freshOf)
    (hist : List (Nat × Query)) : freshAnswers T w hist = freshAnswers T w' hist := by
  apply List.map_congr_left
  intro jq _
  have := congrArg (fun l => l[jq.1]?.map fun o => (query T o jq.2).2) h
  rwa [List.getElem?_map, List.getElem?_map, Option.map_map, Option.map_map] at this

/-- **history independence**: for every finite history of read-only calls on any number of live objects
    (started from objects satisfying the invariant, e.g. freshly constructed ones), every call returns
    exactly what it returns on a freshly constructed object — whatever was called before, on the same or
    on other objects — and sequences, phosphosite lists and palettes are unchanged at the end -/
theorem history_independent (T : Tables) (w : List Obj) (hw : WorldOK T w) (hist : List (Nat × Query)) :
    (runWorld T w hist).2 = freshAnswers T w hist ∧
    (runWorld T w hist).1.map freshOf = w.map freshOf ∧ WorldOK T (runWorld T w hist).1 := by
  induction hist generalizing w with
  | nil => exact ⟨rfl, rfl, hw⟩
  | cons iq rest ih =>
    obtain ⟨s1, s2, s3⟩ := stepWorld_ok T w hw iq
    obtain ⟨i1, i2, i3⟩ := ih (stepWorld T w iq).1 s1
    refine ⟨?_, i2.trans s2, i3⟩
    rw [runWorld, i1, s3, freshAnswers_congr T s2]
    rfl

/-- read-only frame: whatever the history, the stored sequence and phosphosite list of every object are
    what they were -/
theorem readonly_frame (T : Tables) (w : List Obj) (hw : WorldOK T w) (hist : List (Nat × Query)) :
    (runWorld T w hist).1.map (fun o => (o.seq, o.phos)) = w.map (fun o => (o.seq, o.phos)) := by
  have h := congrArg (List.map fun o => (o.seq, o.phos)) (history_independent T w hw hist).2.1
  rwa [List.map_map, List.map_map] at h

/-- the shared mutable default argument is unobservable: after its first use the default list holds the
    seven default groups as strings, and passing those explicitly gives the same answer as the default -/
theorem default_groups_unobservable (w : Nat) (s : Seq) :
    linComposition w (defaultGroups.map (fun g => g.map (fun a => PyMember.str [a.toChar]))) s
      = linComposition w [] s := by
  have h : mapExcept parseGroup (defaultGroups.map (fun g => g.map (fun a => PyMember.str [a.toChar]))) = .ok defaultGroups := by
    decide +kernel
  rw [linComposition, linComposition, h, ite_self, List.isEmpty_nil, if_pos rfl]

end Cider.C15
