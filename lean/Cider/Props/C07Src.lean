/-
  Cider.Props.C07Src — source-text tie for C07: the index arithmetic of the double loop of
  `Sequence.sequence_charge_decoration` (range bounds, the two subscripts into `chargePattern`, the distance under
  the root, the exponent, the final denominator), as `tools/pyexpr2lean.py` translates it from the live SOURCE on
  every run (Gen/Decisions.lean), enumerates for EVERY length exactly the (index, index, distance) triples the model
  `scdLoop` (Real/Scd.lean, the object of the C07 theorems) enumerates, in the same order, with exponent 1/2 and
  denominator N.  A changed bound (`range(1, self.len+1)`, `range(1, m+1)`, `range(0, m)`), subscript (`m`, `n`),
  distance (`m-n+1`), exponent or denominator (`self.len-1`) breaks a proof here.
  `scd_of_source_triples`: `scdLoop p` IS the sum of q[i]·q[j]·√dist over the triples the SOURCE's nest visits, over the source's denominator.
-/
import Cider.Gen.Decisions
import Cider.Real.Scd
namespace Cider.C07Src
open Cider

/-- Python's `range(lo, hi)` for a non-negative `lo` -/
def pyRange (lo hi : Int) : List Int := (List.range' lo.toNat (hi - lo).toNat).map Int.ofNat

/-- the triples (first subscript, second subscript, distance) the SOURCE's loop nest visits, in order -/
def srcTriples (N : Nat) : List (Int × Int × Int) :=
  (pyRange (Gen.scdNestOuterLo N) (Gen.scdNestOuterHi N)).flatMap (fun m =>
    (pyRange (Gen.scdNestInnerLo m N) (Gen.scdNestInnerHi m N)).map (fun n =>
      (Gen.scdNestIdxA m n N, Gen.scdNestIdxB m n N, Gen.scdNestDist m n N)))

/-- the triples `scdLoop` visits: `m` over `range' 2 (N-1)`, `n` over `range' 1 (m-1)`, factors `q[m-1] q[n-1] √(m-n)` -/
def modelTriples (N : Nat) : List (Int × Int × Int) :=
  (List.range' 2 (N - 1)).flatMap (fun m =>
    (List.range' 1 (m - 1)).map (fun (n : Nat) => ((m : Int) - 1, (n : Int) - 1, (m : Int) - (n : Int))))

theorem pyRange_nat (lo : Nat) (hi : Nat) : pyRange lo hi = (List.range' lo (hi - lo)).map Int.ofNat := by
  unfold pyRange
  congr 2
  omega

/-- the source's loop nest visits exactly the model's triples, for every length -/
theorem triples_eq (N : Nat) : srcTriples N = modelTriples N := by
  unfold srcTriples modelTriples Gen.scdNestOuterLo Gen.scdNestOuterHi Gen.scdNestInnerLo Gen.scdNestInnerHi
    Gen.scdNestIdxA Gen.scdNestIdxB Gen.scdNestDist
  have h1 : pyRange (2 : Int) ((N : Int) + 1) = (List.range' 2 (N - 1)).map Int.ofNat := by
    have := pyRange_nat 2 (N + 1)
    simpa using this
  rw [h1, List.flatMap_map]
  congr 1
  funext m
  have h2 : pyRange (1 : Int) (Int.ofNat m) = (List.range' 1 (m - 1)).map Int.ofNat := by
    have := pyRange_nat 1 m
    simpa using this
  rw [h2, List.map_map]
  rfl

/-- all visited subscripts are inside the sequence and every distance is positive: no wrap-around through a negative
    Python index, no `sqrt` of a non-positive number -/
theorem triples_in_range (N : Nat) : ∀ t ∈ srcTriples N, 0 ≤ t.2.1 ∧ t.2.1 < t.1 ∧ t.1 < N ∧ t.2.2 = t.1 - t.2.1 ∧ 0 < t.2.2 := by
  rw [triples_eq]
  unfold modelTriples
  intro t ht
  simp only [List.mem_flatMap, List.mem_map, List.mem_range'_1] at ht
  obtain ⟨m, hm, n, hn, rfl⟩ := ht
  simp only
  omega

/-- exponent 1/2 (a square root) and the final division by the sequence length -/
theorem exp_denom_eq : Gen.scdNestExp = 1 / 2 ∧ ∀ N : Int, Gen.scdNestDenom N = N := ⟨rfl, fun _ => rfl⟩

/-- non-vacuity: a five-residue chain visits ten pairs, the last one (4, 3, 1) -/
example : (srcTriples 5).length = 10 ∧ (srcTriples 5).getLast? = some (4, 3, 1) := by decide

/-! ### closing the chain source text → `scdLoop` (the object of every C07 theorem) -/

/-- one term of the sum, from a visited triple -/
noncomputable def term (p : Pattern) (t : Int × Int × Int) : ℝ :=
  qAt p t.1.toNat * qAt p t.2.1.toNat * Real.sqrt ((t.2.2.toNat : ℝ))

theorem sum_map_flatMap {α β : Type} (L : List α) (f : α → List β) (G : β → ℝ) :
    ((L.flatMap f).map G).sum = (L.map (fun a => ((f a).map G).sum)).sum := by
  induction L with
  | nil => simp
  | cons a L ih => simp [List.flatMap_cons, ih]

/-- `scdLoop` is the sum over `modelTriples` -/
theorem scdLoop_eq_sum_modelTriples (p : Pattern) :
    scdLoop p = ((modelTriples p.length).map (term p)).sum / (p.length : ℝ) := by
  rw [scdLoop_eq_sum, modelTriples, sum_map_flatMap]
  congr 2
  refine List.map_congr_left fun m _ => ?_
  rw [List.map_map]
  congr 1
  refine List.map_congr_left fun n _ => ?_
  simp only [Function.comp, term]
  rw [show ((m : Int) - 1).toNat = m - 1 by omega, show ((n : Int) - 1).toNat = n - 1 by omega,
    show ((m : Int) - (n : Int)).toNat = m - n by omega]

/-- SCD, as every C07 theorem knows it, is determined by the loop nest the SOURCE TEXT spells out today -/
theorem scd_of_source_triples (p : Pattern) :
    scdLoop p = ((srcTriples p.length).map (term p)).sum / ((Gen.scdNestDenom p.length : Int) : ℝ) := by
  rw [triples_eq, scdLoop_eq_sum_modelTriples]
  simp [Gen.scdNestDenom]


end Cider.C07Src
