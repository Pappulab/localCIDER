/-
  Cider.Props.C13Val — source-text tie for C13: the per-character decision in the loop of `Sequence.validateSequence`
  (append / drop / raise), as `tools/pyexpr2lean.py` translates it from the live SOURCE on every run
  (Gen/Decisions.lean; counters, the warn-once flag and messages are recognised as unable to influence the outcome),
  is one unfolding of the model's `validateChars` for EVERY character and every rest of the input.  A swapped
  branch, a raise turned into a silent drop (or the reverse), a warn-once flag that starts to decide the outcome
  breaks a proof here (the last one makes the fragment untranslatable: module skipped, correspondence decides).
-/
import Cider.Gen.Decisions
import Cider.Model.Text
namespace Cider.C13Val
open Cider

/-- one pass of the source's loop body is one unfolding of `validateChars` -/
theorem validateChar_eq (ops : CharOps) (c : Char) (cs : List Char) :
    validateChars ops (c :: cs) =
      match Gen.validateCharSrc (AA.ofChar? c).isSome (ops.isspace c), AA.ofChar? c with
      | .ok true, some a => (match validateChars ops cs with | .ok r => .ok (a :: r) | .error e => .error e)
      | .ok true, none => .error .invalidResidue        -- unreachable: appended characters are residues
      | .ok false, _ => validateChars ops cs
      | .error _, _ => .error .invalidResidue := by
  rw [validateChars]
  cases AA.ofChar? c <;> cases ops.isspace c <;> rfl

/-- the decision table itself: residues are appended, white space is dropped, anything else raises -/
theorem decision_table :
    Gen.validateCharSrc true true = .ok true ∧ Gen.validateCharSrc true false = .ok true ∧
    Gen.validateCharSrc false true = .ok false ∧ Gen.validateCharSrc false false = .error () := ⟨rfl, rfl, rfl, rfl⟩

/-- the returned string starts empty and the accepted pool is the key set of ONE_TO_THREE (that these keys are
    the 20 letters of `AA` is not proved in Lean) -/
theorem frame_eq : Gen.validateCharSrcFrame = "''|list(data.aminoacids.ONE_TO_THREE.keys())" := rfl

end Cider.C13Val
