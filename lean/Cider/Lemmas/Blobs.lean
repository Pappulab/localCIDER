/- sliding windows (`blobs` on patterns is `wins` on any list) and `deltaForm` as a sum -/
import Cider.Lemmas.Sums
import Cider.Model.Profiles
import Cider.Spec.Defs
import Mathlib.Data.List.Basic

namespace Cider

theorem wins_length {α : Type} (w : Nat) (l : List α) : (wins w l).length = l.length + 1 - w := by
  rw [wins, List.length_map, List.length_range]

theorem wins_of_lt {α : Type} (w : Nat) (l : List α) (h : l.length < w) : wins w l = [] := by
  rw [wins, Nat.sub_eq_zero_of_le h]; rfl

theorem wins_self {α : Type} (l : List α) : wins l.length l = [l] := by
  rw [wins, Nat.add_sub_cancel_left, List.range_one, List.map_singleton, List.drop_zero, List.take_length]

theorem mem_wins_length {α : Type} (w : Nat) (l b : List α) (hb : b ∈ wins w l) : b.length = w := by
  obtain ⟨i, hi, rfl⟩ := List.mem_map.mp hb
  rw [List.length_take, List.length_drop]
  have := List.mem_range.mp hi
  omega

theorem deltaForm_sum (w : Nat) (p : Pattern) :
    deltaForm w p = ((blobs w p).map (fun b => (sigma p - sigmaOf (countPos b) (countNeg b) w) *
      (sigma p - sigmaOf (countPos b) (countNeg b) w))).sum / ((blobs w p).length : Rat) := by
  rw [deltaForm, foldl_add_div, zero_add]

theorem deltaForm_nonneg (w : Nat) (p : Pattern) : 0 ≤ deltaForm w p := by
  rw [deltaForm_sum]
  refine div_nonneg (List.sum_nonneg fun x hx => ?_) (Nat.cast_nonneg _)
  obtain ⟨b, _, rfl⟩ := List.mem_map.mp hx
  exact mul_self_nonneg _

theorem delta_nonneg (p : Pattern) : 0 ≤ delta p :=
  div_nonneg (add_nonneg (deltaForm_nonneg 5 p) (deltaForm_nonneg 6 p)) (by norm_num)

theorem deltaForm_eq_zero (w : Nat) (p : Pattern)
    (h : ∀ b ∈ blobs w p, sigmaOf (countPos b) (countNeg b) w = sigma p) : deltaForm w p = 0 := by
  rw [deltaForm_sum, List.sum_eq_zero, zero_div]
  intro x hx
  obtain ⟨b, hb, rfl⟩ := List.mem_map.mp hx
  rw [h b hb, sub_self, mul_zero]

theorem delta_eq_zero_of_uncharged (p : Pattern) (h0 : countPos p + countNeg p = 0) : delta p = 0 := by
  have hz : ∀ w, deltaForm w p = 0 := fun w => deltaForm_eq_zero w p fun b hb => by
    obtain ⟨i, _, rfl⟩ := List.mem_map.mp hb
    have hsub : ((p.drop i).take w).Sublist p := (List.take_sublist _ _).trans (List.drop_sublist _ _)
    have a1 := hsub.countP_le (p := fun x => decide (0 < x))
    have a2 := hsub.countP_le (p := fun x => decide (x < 0))
    rw [sigma, sigmaOf, sigmaOf, if_pos h0, if_pos (by unfold countPos countNeg at *; omega)]
  rw [delta, hz, hz]; norm_num

end Cider
