/- helper lemmas: Python-style accumulation loops are sums; `if best < x: best = x` loops find the first maximiser -/
import Mathlib.Tactic.Ring
import Mathlib.Tactic.Linarith
import Mathlib.Tactic.FieldSimp
import Mathlib.Algebra.Order.Field.Rat
import Mathlib.Algebra.Order.Field.Basic
import Mathlib.Algebra.BigOperators.Group.List.Basic
import Mathlib.Algebra.BigOperators.Ring.List
import Mathlib.Algebra.Order.BigOperators.Group.List
import Cider.Model.Basic

namespace Cider

/-- used at ℚ and ℝ -/
theorem foldl_add {M α : Type} [AddCommMonoid M] (f : α → M) (l : List α) (a : M) :
    l.foldl (fun acc x => acc + f x) a = a + (l.map f).sum := by
  induction l generalizing a with
  | nil => rw [List.foldl_nil, List.map_nil, List.sum_nil, add_zero]
  | cons x xs ih => rw [List.foldl_cons, ih, List.map_cons, List.sum_cons, add_assoc]

theorem sum_map_div {α : Type} (f : α → Rat) (n : Rat) (l : List α) :
    (l.map (fun a => f a / n)).sum = (l.map f).sum / n := by
  simp only [div_eq_mul_inv, List.sum_map_mul_right]

theorem foldl_add_div {α : Type} (f : α → Rat) (n : Rat) (l : List α) (a : Rat) :
    l.foldl (fun acc x => acc + f x / n) a = a + (l.map f).sum / n := by
  rw [foldl_add (fun x => f x / n), sum_map_div]

theorem sumQ_eq_sum (l : List Rat) : sumQ l = l.sum := by
  induction l with
  | nil => rfl
  | cons x xs ih => simp [sumQ, ih]

theorem natCast_sum_map {α : Type} (g : α → Nat) (l : List α) :
    (((l.map g).sum : Nat) : Rat) = (l.map (fun a => (g a : Rat))).sum := by
  induction l with
  | nil => simp
  | cons x xs ih => simp only [List.map_cons, List.sum_cons]; push_cast; rw [ih]

theorem sum_map_ite_one {α : Type} (p : α → Prop) [DecidablePred p] (l : List α) :
    (l.map (fun a => if p a then (1 : Rat) else 0)).sum = ((l.countP (fun a => decide (p a)) : Nat) : Rat) := by
  induction l with
  | nil => simp
  | cons x xs ih =>
    rw [List.map_cons, List.sum_cons, ih, List.countP_cons]
    by_cases h : p x <;> simp [h, add_comm]

theorem indicator_sum (x : AA) : (AA.all.map (fun a => if x = a then 1 else 0)).sum = 1 := by
  cases x <;> decide

/-- every residue is counted by exactly one of the 20 letters -/
theorem sum_count_all (s : Seq) : (AA.all.map (fun a => s.count a)).sum = s.length := by
  induction s with
  | nil => rfl
  | cons x xs ih =>
    have h : (fun a => (x :: xs).count a) = (fun a => xs.count a + (if x = a then 1 else 0)) := by
      funext a; rw [List.count_cons]; simp
    rw [h, List.sum_map_add, ih, List.length_cons, indicator_sum]

/-- The loop `for a in l: if val best < key a: best = mk a` (a record `mk a` whose value is `key a`):
    the result is at least the start and every element, and it is the start itself or the record of an
    element that strictly beat the start. -/
theorem foldl_max_spec {α β : Type} (key : α → Rat) (val : β → Rat) (mk : α → β)
    (hmk : ∀ a, val (mk a) = key a) (l : List α) (b : β) :
    let r := l.foldl (fun best a => if val best < key a then mk a else best) b
    val b ≤ val r ∧ (∀ a ∈ l, key a ≤ val r) ∧ (r = b ∨ ∃ a ∈ l, r = mk a ∧ val b < key a) := by
  induction l generalizing b with
  | nil => exact ⟨le_refl _, fun _ h => absurd h List.not_mem_nil, Or.inl rfl⟩
  | cons x xs ih =>
    rw [List.foldl_cons]
    split_ifs with hlt
    · obtain ⟨h1, h2, h3⟩ := ih (mk x)
      rw [hmk] at h1 h3
      refine ⟨hlt.le.trans h1, List.forall_mem_cons.mpr ⟨h1, h2⟩, Or.inr ?_⟩
      rcases h3 with h3 | ⟨a, ha, e, hlt'⟩
      · exact ⟨x, List.mem_cons_self, h3, hlt⟩
      · exact ⟨a, List.mem_cons_of_mem _ ha, e, hlt.trans hlt'⟩
    · obtain ⟨h1, h2, h3⟩ := ih b
      refine ⟨h1, List.forall_mem_cons.mpr ⟨(not_lt.mp hlt).trans h1, h2⟩, ?_⟩
      exact h3.imp_right fun ⟨a, ha, e⟩ => ⟨a, List.mem_cons_of_mem _ ha, e⟩

end Cider
