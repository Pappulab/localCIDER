/- helper lemmas for the permutation moves: block exchange, picking by position, dealing back -/
import Cider.Lemmas.Deal
import Cider.Model.Moves
import Mathlib.Data.List.Count

namespace Cider

theorem split5 (s : Seq) (a b L : Nat) (h1 : a + L ≤ b) :
    s = s.take a ++ (s.drop a).take L ++ (s.drop (a + L)).take (b - (a + L)) ++ (s.drop b).take L ++ s.drop (b + L) := by
  have e : s.drop b = (s.drop (a + L)).drop (b - (a + L)) := by rw [List.drop_drop]; congr 1; omega
  simp only [List.append_assoc]
  rw [show s.drop (b + L) = (s.drop b).drop L from List.drop_drop.symm, List.take_append_drop, e,
    List.take_append_drop, show s.drop (a + L) = (s.drop a).drop L from List.drop_drop.symm,
    List.take_append_drop, List.take_append_drop]

theorem swapBlocks_outside (s : Seq) (a b L : Nat) (h1 : a + L ≤ b) (h2 : b + L ≤ s.length) (k : Nat)
    (hk : k < a ∨ (a + L ≤ k ∧ k < b) ∨ b + L ≤ k) : (swapBlocks s a b L)[k]? = s[k]? := by
  conv_rhs => rw [split5 s a b L h1]
  have la : (s.take a).length = a := by rw [List.length_take]; omega
  have lb : ((s.drop b).take L).length = L := by rw [List.length_take, List.length_drop]; omega
  have lx : ((s.drop a).take L).length = L := by rw [List.length_take, List.length_drop]; omega
  have lm : ((s.drop (a + L)).take (b - (a + L))).length = b - (a + L) := by
    rw [List.length_take, List.length_drop]; omega
  exact getElem?_exchange _ _ _ _ _ (lx.trans lb.symm) k (by rw [la, lx, lm, lb]; omega)

/-- `pick` with the positions numbered from `k` -/
def pickFrom (k : Nat) (l : Seq) (p : Nat → Bool) : Seq :=
  (((List.range' k l.length).zip l).filter (fun ia => p ia.1)).map (·.2)

theorem pick_eq_pickFrom (s : Seq) (p : Nat → Bool) : pick s p = pickFrom 0 s p := by
  rw [pick, idxd, pickFrom, List.range_eq_range']

theorem pickFrom_cons (k : Nat) (a : AA) (l : Seq) (p : Nat → Bool) :
    pickFrom k (a :: l) p = (if p k then [a] else []) ++ pickFrom (k + 1) l p := by
  rw [pickFrom, List.length_cons, List.range'_succ, List.zip_cons_cons, List.filter_cons]
  split_ifs <;> rfl

theorem pickFrom_length (k : Nat) (l : Seq) (p : Nat → Bool) :
    (pickFrom k l p).length = (List.range' k l.length).countP p := by
  induction l generalizing k with
  | nil => rfl
  | cons a l ih =>
    rw [pickFrom_cons, List.length_append, ih, List.length_cons, List.range'_succ, List.countP_cons, Nat.add_comm]
    split_ifs <;> rfl

theorem pick_length (s : Seq) (p : Nat → Bool) : (pick s p).length = (List.range s.length).countP p := by
  rw [pick_eq_pickFrom, pickFrom_length, List.range_eq_range']

theorem filterMap_perm_pick (s : Seq) (p : Nat → Bool) (order : List Nat)
    (h : order.Perm ((List.range s.length).filter p)) :
    (order.filterMap (fun k => s[k]?)).Perm (pick s p) := by
  rw [pick, idxd, zip_range_eq_filterMap, List.filter_filterMap, List.map_filterMap]
  refine (h.filterMap _).trans (List.Perm.of_eq ?_)
  rw [List.filterMap_filter]
  refine List.filterMap_congr fun i _ => ?_
  cases s[i]? <;> cases hp : p i <;> simp [Option.filter, hp]

theorem idxd_map_snd (s : Seq) : (idxd s).map (·.2) = s :=
  List.map_snd_zip (by rw [List.length_range]; exact Nat.le_refl _)

theorem pick_partition3 (s : Seq) (p q r : Nat → Bool)
    (h : ∀ i, (p i = true ∧ q i = false ∧ r i = false) ∨ (p i = false ∧ q i = true ∧ r i = false) ∨
              (p i = false ∧ q i = false ∧ r i = true)) :
    (pick s p ++ pick s q ++ pick s r).Perm s := by
  have := (three_way_perm_gen (fun ia : Nat × AA => p ia.1) (fun ia => q ia.1) (fun ia => r ia.1)
    (fun ia => h ia.1) (idxd s)).map (·.2)
  rwa [List.map_append, List.map_append, idxd_map_snd] at this

theorem counts_classPattern (N : Nat) (cls : Nat → Int) :
    countPos (classPattern N cls) = (List.range N).countP (fun i => decide (0 < cls i)) ∧
    countNeg (classPattern N cls) = (List.range N).countP (fun i => decide (cls i < 0)) ∧
    countNeut (classPattern N cls) = (List.range N).countP (fun i => decide (cls i = 0)) :=
  ⟨List.countP_map .., List.countP_map .., List.countP_map ..⟩

theorem countP_range_window (N lo hi : Nat) (h1 : lo ≤ hi) (h2 : hi ≤ N) :
    (List.range N).countP (fun i => decide (lo ≤ i ∧ i < hi)) = hi - lo := by
  have hlt : ∀ i ∈ List.range' lo (hi - lo), i < N := fun i h => by
    have := List.mem_range'_1.mp h; omega
  rw [← List.length_range' (s := lo) (n := hi - lo) (step := 1), ← countP_mem_range _ N List.nodup_range' hlt]
  refine List.countP_congr fun i _ => ?_
  rw [decide_eq_true_eq, decide_eq_true_eq, List.mem_range'_1]
  omega

/-- Dealing back along the class pattern of the positions puts every class-0 residue where it was:
    the class-0 residues are dealt in the order in which `pickFrom` took them, and with as many
    residues as positions in the other two classes no step skips a position. -/
theorem dealOut_pickFrom_zero (cls : Nat → Int) (l : Seq) (k : Nat) (ps ns : List AA)
    (h1 : countPos ((List.range' k l.length).map cls) = ps.length)
    (h2 : countNeg ((List.range' k l.length).map cls) = ns.length)
    (i : Nat) (hi : i < l.length) (hc : cls (k + i) = 0) :
    (dealOut ((List.range' k l.length).map cls) ps ns (pickFrom k l (fun j => decide (cls j = 0))))[i]? = l[i]? := by
  induction l generalizing k ps ns i with
  | nil => cases hi
  | cons a l ih =>
    simp only [List.length_cons, List.range'_succ, List.map_cons, countPos_cons, countNeg_cons] at h1 h2 hi ⊢
    rw [pickFrom_cons]
    have step : ∀ ps ns, countPos ((List.range' (k + 1) l.length).map cls) = ps.length →
        countNeg ((List.range' (k + 1) l.length).map cls) = ns.length → ∀ j, i = j + 1 →
        (dealOut ((List.range' (k + 1) l.length).map cls) ps ns (pickFrom (k + 1) l fun j => decide (cls j = 0)))[j]? = l[j]? :=
      fun ps ns h1 h2 j hj => ih (k + 1) ps ns h1 h2 j (by omega) (by rw [← hc, hj]; congr 1; omega)
    rcases Int.lt_trichotomy (cls k) 0 with h | h | h
    · rw [if_neg (Int.lt_asymm h)] at h1; rw [if_pos h] at h2
      rw [if_neg (by simpa using Int.ne_of_lt h), List.nil_append]
      obtain ⟨x, ns, rfl⟩ := List.exists_cons_of_length_eq_add_one h2.symm
      rw [dealOut_neg h]
      cases i with
      | zero => rw [Nat.add_zero] at hc; omega
      | succ j => exact step ps ns h1 (Nat.succ.inj h2) j rfl
    · rw [h] at h1 h2 ⊢
      rw [if_pos (by simp), List.singleton_append, dealOut_zero]
      cases i with
      | zero => rfl
      | succ j => exact step ps ns (by simpa using h1) (by simpa using h2) j rfl
    · rw [if_pos h] at h1; rw [if_neg (Int.lt_asymm h)] at h2
      rw [if_neg (by simpa using Int.ne_of_gt h), List.nil_append]
      obtain ⟨x, ps, rfl⟩ := List.exists_cons_of_length_eq_add_one h1.symm
      rw [dealOut_pos h]
      cases i with
      | zero => rw [Nat.add_zero] at hc; omega
      | succ j => exact step ps ns (Nat.succ.inj h1) h2 j rfl

end Cider
