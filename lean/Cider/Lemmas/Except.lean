/- for `Except`, what `Option.ite_none_right_eq_some` / `_left_` say for `Option` -/

namespace Cider.Except
variable {ε α : Type} {c : Prop} [Decidable c] {x : Except ε α} {e : ε} {a : α}

theorem ite_error_right_eq_ok : (if c then x else .error e) = .ok a ↔ c ∧ x = .ok a := by
  split <;> simp [*]

theorem ite_error_left_eq_ok : (if c then .error e else x) = .ok a ↔ ¬c ∧ x = .ok a := by
  rw [← ite_not, ite_error_right_eq_ok]

end Cider.Except
