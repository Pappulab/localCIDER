/- `dealOut`: its equations, induction along it under matching class sizes, and what follows;
   a three-way partition of a list -/
import Cider.Lemmas.Counts
import Mathlib.Data.List.Perm.Basic

namespace Cider

theorem dealOut_pos {c : Int} (h : 0 < c) (cs : Pattern) (x : AA) (ps ns us : List AA) :
    dealOut (c :: cs) (x :: ps) ns us = x :: dealOut cs ps ns us := by
  simp only [dealOut, if_pos h]

theorem dealOut_neg {c : Int} (h : c < 0) (cs : Pattern) (x : AA) (ps ns us : List AA) :
    dealOut (c :: cs) ps (x :: ns) us = x :: dealOut cs ps ns us := by
  simp only [dealOut, if_neg (Int.lt_asymm h), if_pos h]

theorem dealOut_zero (cs : Pattern) (x : AA) (ps ns us : List AA) :
    dealOut (0 :: cs) ps ns (x :: us) = x :: dealOut cs ps ns us := by
  simp only [dealOut, Int.lt_irrefl, if_false]

/-- Induction along `dealOut` when every class holds exactly as many residues as the candidate has
    positions of it: each step takes the head of the list its sign selects, never an empty one. -/
theorem dealOut_induction {motive : Pattern → List AA → List AA → List AA → Prop}
    (nil : motive [] [] [] [])
    (pos : ∀ c cs x ps ns us, 0 < c → motive cs ps ns us → motive (c :: cs) (x :: ps) ns us)
    (neg : ∀ c cs x ps ns us, c < 0 → motive cs ps ns us → motive (c :: cs) ps (x :: ns) us)
    (zero : ∀ cs x ps ns us, motive cs ps ns us → motive (0 :: cs) ps ns (x :: us)) :
    ∀ cand ps ns us, countPos cand = ps.length → countNeg cand = ns.length →
      countNeut cand = us.length → motive cand ps ns us := by
  intro cand
  induction cand with
  | nil =>
    intro ps ns us h1 h2 h3
    rw [List.eq_nil_of_length_eq_zero h1.symm, List.eq_nil_of_length_eq_zero h2.symm,
      List.eq_nil_of_length_eq_zero h3.symm]
    exact nil
  | cons c cs ih =>
    intro ps ns us h1 h2 h3
    rw [countPos_cons] at h1; rw [countNeg_cons] at h2; rw [countNeut_cons] at h3
    rcases Int.lt_trichotomy c 0 with hc | rfl | hc
    · rw [if_neg (Int.lt_asymm hc)] at h1; rw [if_pos hc] at h2; rw [if_neg (Int.ne_of_lt hc)] at h3
      cases ns with
      | nil => cases h2
      | cons x ns => exact neg c cs x ps ns us hc (ih ps ns us h1 (Nat.succ.inj h2) h3)
    · simp only [Int.lt_irrefl, if_false, if_true] at h1 h2 h3
      cases us with
      | nil => cases h3
      | cons x us => exact zero cs x ps ns us (ih ps ns us h1 h2 (Nat.succ.inj h3))
    · rw [if_pos hc] at h1; rw [if_neg (Int.lt_asymm hc)] at h2; rw [if_neg (Int.ne_of_gt hc)] at h3
      cases ps with
      | nil => cases h1
      | cons x ps => exact pos c cs x ps ns us hc (ih ps ns us (Nat.succ.inj h1) h2 h3)

theorem dealOut_perm (cand : Pattern) (ps ns us : List AA) (h1 : countPos cand = ps.length)
    (h2 : countNeg cand = ns.length) (h3 : countNeut cand = us.length) :
    (dealOut cand ps ns us).Perm (ps ++ ns ++ us) := by
  revert cand ps ns us
  refine dealOut_induction (List.Perm.refl _) ?_ ?_ ?_
  · intro c cs x ps ns us hc ih
    rw [dealOut_pos hc]; exact ih.cons x
  · intro c cs x ps ns us hc ih
    rw [dealOut_neg hc, List.append_assoc]
    exact (ih.cons x).trans (by rw [List.append_assoc]; exact List.perm_middle.symm)
  · intro cs x ps ns us ih
    rw [dealOut_zero]; exact (ih.cons x).trans List.perm_middle.symm

theorem patternOf_dealOut (T : Tables) (cand : Pattern) (ps ns us : List AA)
    (h1 : countPos cand = ps.length) (h2 : countNeg cand = ns.length) (h3 : countNeut cand = us.length)
    (hps : ∀ a ∈ ps, 0 < T.charge a) (hns : ∀ a ∈ ns, T.charge a < 0) (hus : ∀ a ∈ us, T.charge a = 0) :
    patternOf T (dealOut cand ps ns us) = cand.map chargeSign := by
  revert cand ps ns us
  refine dealOut_induction (fun _ _ _ => rfl) ?_ ?_ ?_
  · intro c cs x ps ns us hc ih hps hns hus
    rw [dealOut_pos hc, patternOf, List.map_cons, List.map_cons, ← patternOf,
      ih (fun a ha => hps a (List.mem_cons_of_mem _ ha)) hns hus]
    simp only [chargeSign, hc, hps x List.mem_cons_self, if_true]
  · intro c cs x ps ns us hc ih hps hns hus
    rw [dealOut_neg hc, patternOf, List.map_cons, List.map_cons, ← patternOf,
      ih hps (fun a ha => hns a (List.mem_cons_of_mem _ ha)) hus]
    simp only [chargeSign, hc, hns x List.mem_cons_self, if_neg (Int.lt_asymm hc),
      if_neg (Int.lt_asymm (hns x List.mem_cons_self)), if_true]
  · intro cs x ps ns us ih hps hns hus
    rw [dealOut_zero, patternOf, List.map_cons, List.map_cons, ← patternOf,
      ih hps hns (fun a ha => hus a (List.mem_cons_of_mem _ ha))]
    simp only [chargeSign, hus x List.mem_cons_self, Int.lt_irrefl, if_false]

theorem three_way_perm (s : Seq) :
    (s.filter (fun a => a = AA.R ∨ a = AA.K) ++ s.filter (fun a => a = AA.D ∨ a = AA.E) ++
      s.filter (fun a => ¬ (a = AA.D ∨ a = AA.E ∨ a = AA.R ∨ a = AA.K))).Perm s := by
  apply three_way_perm_gen
  intro a; cases a <;> decide

end Cider
