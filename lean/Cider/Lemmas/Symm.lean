/- helper lemmas: reversal and charge inversion of patterns -/
import Cider.Lemmas.Dmax

namespace Cider

def neg (p : Pattern) : Pattern := p.map (fun x => -x)

theorem neg_length (p : Pattern) : (neg p).length = p.length := by simp [neg]

theorem countPos_reverse (p : Pattern) : countPos p.reverse = countPos p := by unfold countPos; simp
theorem countNeg_reverse (p : Pattern) : countNeg p.reverse = countNeg p := by unfold countNeg; simp
theorem countNeut_reverse (p : Pattern) : countNeut p.reverse = countNeut p := by unfold countNeut; simp

theorem countPos_neg (p : Pattern) : countPos (neg p) = countNeg p := by
  unfold countPos countNeg neg; rw [List.countP_map]; congr 1; funext x; simp
theorem countNeg_neg (p : Pattern) : countNeg (neg p) = countPos p := by
  unfold countPos countNeg neg; rw [List.countP_map]; congr 1; funext x; simp
theorem countNeut_neg (p : Pattern) : countNeut (neg p) = countNeut p := by
  unfold countNeut neg; rw [List.countP_map]; congr 1; funext x; simp

theorem sigmaOf_symm (a b len : Nat) : sigmaOf a b len = sigmaOf b a len := by
  rw [sigmaOf, sigmaOf, Nat.add_comm b a]
  split_ifs
  · rfl
  · ring

theorem sigma_reverse (p : Pattern) : sigma p.reverse = sigma p := by
  unfold sigma; rw [countPos_reverse, countNeg_reverse, List.length_reverse]

theorem sigma_neg (p : Pattern) : sigma (neg p) = sigma p := by
  unfold sigma; rw [countPos_neg, countNeg_neg, neg_length, sigmaOf_symm]

theorem blobs_reverse (w : Nat) (p : Pattern) :
    blobs w p.reverse = ((blobs w p).map List.reverse).reverse := by
  apply List.ext_getElem
  · simp [blobs]
  · intro i h1 h2
    simp only [blobs, List.length_map, List.length_range, List.length_reverse] at h1
    simp only [blobs, List.getElem_map, List.getElem_range, List.getElem_reverse, List.length_map,
      List.length_range, List.length_reverse]
    rw [List.drop_reverse, List.take_reverse]
    congr 1
    simp only [List.length_take]
    rw [List.drop_take]
    have e1 : min (p.length - i) p.length = p.length - i := by omega
    rw [e1]
    have e2 : p.length - i - (p.length - i - w) = w := by omega
    have e3 : p.length + 1 - w - 1 - i = p.length - i - w := by omega
    rw [e2, e3]

theorem blobs_neg (w : Nat) (p : Pattern) : blobs w (neg p) = (blobs w p).map neg := by
  unfold blobs neg
  simp only [List.length_map, List.map_map]
  apply List.map_congr_left
  intro i _
  simp [List.map_drop, List.map_take]

theorem deltaForm_reverse (w : Nat) (p : Pattern) : deltaForm w p.reverse = deltaForm w p := by
  rw [deltaForm_sum, deltaForm_sum, blobs_reverse, sigma_reverse]
  simp only [List.map_reverse, List.sum_reverse, List.length_reverse, List.length_map, List.map_map]
  congr 2
  apply List.map_congr_left
  intro b _
  simp [countPos_reverse, countNeg_reverse]

theorem deltaForm_neg (w : Nat) (p : Pattern) : deltaForm w (neg p) = deltaForm w p := by
  rw [deltaForm_sum, deltaForm_sum, blobs_neg, sigma_neg]
  simp only [List.length_map, List.map_map]
  congr 2
  apply List.map_congr_left
  intro b _
  simp only [Function.comp]
  rw [countPos_neg, countNeg_neg, sigmaOf_symm]

theorem delta_reverse (p : Pattern) : delta p.reverse = delta p := by
  unfold delta; rw [deltaForm_reverse, deltaForm_reverse]

theorem delta_neg (p : Pattern) : delta (neg p) = delta p := by
  unfold delta; rw [deltaForm_neg, deltaForm_neg]

@[simp] theorem neg_append (a b : Pattern) : neg (a ++ b) = neg a ++ neg b := by simp [neg]
@[simp] theorem neg_blk (n : Nat) (v : Int) : neg (blk n v) = blk n (-v) := by simp [neg, blk]
@[simp] theorem reverse_blk (n : Nat) (v : Int) : (blk n v).reverse = blk n v := by simp [blk]

/-- the documented family of (n−, n+, n0) contains, for every candidate of (n+, n−, n0), an arrangement
    with the same delta (its charge inversion, mirrored where needed) -/
theorem family_swap (np nn n0 : Nat) :
    ∀ c ∈ candidates np nn n0, ∃ c' ∈ candidates nn np n0, delta c' = delta c := by
  intro c hc
  -- one charge type: the family of the other sign holds the inverted arrangement
  have one : ∀ (v : Int) (k : Nat), c ∈ candOneType v k n0 → neg c ∈ candOneType (-v) k n0 := by
    intro v k hc
    unfold candOneType at hc ⊢
    split_ifs at hc ⊢ <;>
      (simp only [List.mem_map, List.mem_range] at hc ⊢
       obtain ⟨i, hi, rfl⟩ := hc
       exact ⟨i, hi, by simp⟩)
  unfold candidates at hc ⊢
  split_ifs at hc with h0 h1 h2 h3 h4
  · cases hc
  · subst h1
    rw [if_neg (by omega), if_neg (by omega), if_pos rfl]
    exact ⟨neg c, one _ _ hc, delta_neg c⟩
  · subst h2
    rw [if_neg (by omega), if_pos rfl]
    exact ⟨neg c, one _ _ hc, delta_neg c⟩
  · -- no neutrals: inverted when one sign is in the majority, the same arrangement on a tie
    rw [if_neg (by omega), if_neg h2, if_neg h1, if_pos h3]
    unfold candNoNeut at hc ⊢
    rcases Nat.lt_trichotomy np nn with hlt | rfl | hgt
    · rw [if_neg (by omega)] at hc; rw [if_pos hlt]
      simp only [List.mem_map, List.mem_range] at hc ⊢
      obtain ⟨i, hi, rfl⟩ := hc
      exact ⟨_, ⟨i, hi, rfl⟩, by rw [← delta_neg]; simp⟩
    · exact ⟨c, hc, rfl⟩
    · rw [if_pos hgt] at hc; rw [if_neg (by omega)]
      simp only [List.mem_map, List.mem_range] at hc ⊢
      obtain ⟨i, hi, rfl⟩ := hc
      exact ⟨_, ⟨i, hi, rfl⟩, by rw [← delta_neg]; simp⟩
  · -- many neutrals: inverted and mirrored, the end gaps exchanged
    rw [if_neg (by omega), if_neg h2, if_neg h1, if_neg h3, if_pos h4]
    unfold candManyNeut at hc ⊢
    simp only [List.mem_flatMap, List.mem_map, List.mem_range] at hc ⊢
    obtain ⟨s, hs, e, he, rfl⟩ := hc
    refine ⟨_, ⟨e, he, s, hs, rfl⟩, ?_⟩
    rw [← delta_neg, ← delta_reverse]
    simp [List.reverse_append, show n0 - e - s = n0 - s - e by omega]
  · -- general: inverted and mirrored, the start gap becomes the end gap
    rw [if_neg (by omega), if_neg h2, if_neg h1, if_neg h3, if_neg h4]
    unfold candGeneral at hc ⊢
    simp only [List.mem_flatMap, List.mem_map, List.mem_range] at hc ⊢
    obtain ⟨m, hm, s, hs, rfl⟩ := hc
    refine ⟨_, ⟨m, hm, n0 - s - m, by omega, rfl⟩, ?_⟩
    rw [← delta_neg, ← delta_reverse]
    simp [List.reverse_append, show n0 - (n0 - s - m) - m = s by omega]

/-- delta-max is unchanged by exchanging the numbers of positive and negative residues -/
theorem dmaxComp_swap (np nn n0 : Nat) : dmaxComp np nn n0 = dmaxComp nn np n0 := by
  have key : ∀ a b : Nat, dmaxComp a b n0 ≤ dmaxComp b a n0 := by
    intro a b
    by_cases h0 : a + b = 0
    · have h0' : b + a = 0 := by omega
      rw [dmaxComp_of_uncharged h0, dmaxComp_of_uncharged h0']
    · obtain ⟨_, c, hc, e, _⟩ := dmaxComp_spec a b n0 (by omega)
      obtain ⟨c', hc', e'⟩ := family_swap a b n0 c hc
      have h2 := (dmaxComp_spec b a n0 (by omega)).1
      rw [← e, ← e']
      exact h2 c' hc'
  exact le_antisymm (key np nn) (key nn np)

end Cider
