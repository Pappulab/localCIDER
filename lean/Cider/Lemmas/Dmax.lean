/- helper lemmas for the delta-max search -/
import Cider.Lemmas.Blobs
import Cider.Lemmas.Counts

namespace Cider

theorem mem_blk {n : Nat} {v x : Int} : x ∈ blk n v ↔ n ≠ 0 ∧ x = v := List.mem_replicate

theorem dmaxComp_of_uncharged {np nn : Nat} (h : np + nn = 0) (n0 : Nat) : dmaxComp np nn n0 = 0 := if_pos h

theorem dmaxArgComp_of_uncharged {np nn : Nat} (h : np + nn = 0) (n0 : Nat) : dmaxArgComp np nn n0 = none :=
  if_pos h

/-- every regime maps over a non-empty range of insertion points -/
theorem candidates_nonempty (np nn n0 : Nat) (h : 0 < np + nn) : candidates np nn n0 ≠ [] := by
  have hmap : ∀ (n : Nat) (f : Nat → Pattern), (List.range (n + 1)).map f ≠ [] := fun n f => by
    rw [List.range_succ_eq_map]; exact List.cons_ne_nil _ _
  rw [candidates, if_neg (by omega)]
  split_ifs
  · rw [candOneType]; split_ifs <;> exact hmap _ _
  · rw [candOneType]; split_ifs <;> exact hmap _ _
  · rw [candNoNeut]; split_ifs <;> exact hmap _ _
  · exact List.ne_nil_of_length_pos (by simp [candManyNeut])
  · exact List.ne_nil_of_length_pos (by simp [candGeneral, List.range_succ])

/-- delta-max of a charged composition bounds every candidate's delta and is attained by the first maximiser -/
theorem dmaxComp_spec (np nn n0 : Nat) (h : 0 < np + nn) :
    (∀ c ∈ candidates np nn n0, delta c ≤ dmaxComp np nn n0) ∧
    (∃ c ∈ candidates np nn n0, delta c = dmaxComp np nn n0 ∧ dmaxArgComp np nn n0 = some c) := by
  have h0 : ¬ (np + nn = 0) := by omega
  rw [dmaxComp, dmaxArgComp, if_neg h0, if_neg h0, dmaxFold]
  obtain ⟨_, h2, h3⟩ := foldl_max_spec delta (·.1) (fun c => (delta c, some c)) (fun _ => rfl)
    (candidates np nn n0) (-1, none)
  refine ⟨h2, ?_⟩
  rcases h3 with h3 | ⟨c, hc, e, _⟩
  · -- the sentinel −1 cannot survive: the family is non-empty and delta is non-negative
    obtain ⟨c, hc⟩ := List.exists_mem_of_ne_nil _ (candidates_nonempty np nn n0 h)
    have := h2 c hc
    rw [h3] at this
    linarith [delta_nonneg c]
  · exact ⟨c, hc, by rw [e], by rw [e]⟩

/-- composition and entries in one pass over the regimes of the search -/
theorem candidates_spec (np nn n0 : Nat) :
    ∀ c ∈ candidates np nn n0, (countPos c = np ∧ countNeg c = nn ∧ countNeut c = n0) ∧
      ∀ x ∈ c, x = 1 ∨ x = -1 ∨ x = 0 := by
  intro c hc
  -- the one-type and no-neutral families: a block `v` inserted into a block `u`
  have leaf : ∀ (a b d : Nat) (u v : Int), (u = 1 ∨ u = -1 ∨ u = 0) → (v = 1 ∨ v = -1 ∨ v = 0) →
      ∀ x ∈ blk a u ++ blk b v ++ blk d u, x = 1 ∨ x = -1 ∨ x = 0 := by
    intro a b d u v hu hv x hx
    simp only [List.mem_append, mem_blk] at hx
    omega
  unfold candidates at hc
  split_ifs at hc with h1 h2 h3 h4 h5
  · cases hc
  · subst h2
    unfold candOneType at hc
    split_ifs at hc <;>
      (simp only [List.mem_map, List.mem_range] at hc; obtain ⟨i, hi, rfl⟩ := hc
       exact ⟨by simp; omega, leaf _ _ _ _ _ (by omega) (by omega)⟩)
  · subst h3
    unfold candOneType at hc
    split_ifs at hc <;>
      (simp only [List.mem_map, List.mem_range] at hc; obtain ⟨i, hi, rfl⟩ := hc
       exact ⟨by simp; omega, leaf _ _ _ _ _ (by omega) (by omega)⟩)
  · subst h4
    unfold candNoNeut at hc
    split_ifs at hc <;>
      (simp only [List.mem_map, List.mem_range] at hc; obtain ⟨i, hi, rfl⟩ := hc
       exact ⟨by simp; omega, leaf _ _ _ _ _ (by omega) (by omega)⟩)
  · unfold candManyNeut at hc
    simp only [List.mem_flatMap, List.mem_map, List.mem_range] at hc
    obtain ⟨s, hs, e, he, rfl⟩ := hc
    refine ⟨by simp; omega, fun x hx => ?_⟩
    simp only [List.mem_append, mem_blk] at hx
    omega
  · unfold candGeneral at hc
    simp only [List.mem_flatMap, List.mem_map, List.mem_range] at hc
    obtain ⟨m, hm, s, hs, rfl⟩ := hc
    refine ⟨by simp; omega, fun x hx => ?_⟩
    simp only [List.mem_append, mem_blk] at hx
    omega

end Cider
