/- the 20 one-letter codes: `AA.all` is complete, `toChar` and `ofChar?` are inverse to each other -/
import Cider.Model.Basic

namespace Cider.AA

theorem mem_all (a : AA) : a ∈ AA.all := by cases a <;> decide

theorem ofChar?_toChar (a : AA) : AA.ofChar? a.toChar = some a := by cases a <;> rfl

theorem eq_toChar_of_ofChar? {c : Char} {a : AA} (h : AA.ofChar? c = some a) : c = a.toChar := by
  unfold AA.ofChar? at h
  split at h <;> cases h <;> rfl

end Cider.AA
