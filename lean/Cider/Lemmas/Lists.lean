/- facts about lists that do not mention the model -/
import Mathlib.Data.List.Forall2
import Mathlib.Data.List.Perm.Basic
import Mathlib.Data.List.Nodup
import Mathlib.Data.List.Count

namespace Cider

theorem map_eq_map_of_forall₂ {α β : Type} {f g : α → β} {s t : List α}
    (h : List.Forall₂ (fun a b => f a = g b) s t) : s.map f = t.map g := by
  induction h with
  | nil => rfl
  | cons hab _ ih => rw [List.map_cons, List.map_cons, hab, ih]

/-- `mapM` into `Option` fails exactly when one element fails -/
theorem mapM_eq_none_iff {α β : Type} (f : α → Option β) (l : List α) :
    l.mapM f = none ↔ ∃ a ∈ l, f a = none := by
  induction l with
  | nil => simp
  | cons x xs ih =>
    rw [List.mapM_cons, List.exists_mem_cons_iff, ← ih]
    cases f x <;> cases xs.mapM f <;> simp

theorem three_way_perm_gen {α : Type} (p q r : α → Bool)
    (h : ∀ a, (p a = true ∧ q a = false ∧ r a = false) ∨ (p a = false ∧ q a = true ∧ r a = false) ∨
              (p a = false ∧ q a = false ∧ r a = true)) (l : List α) :
    (l.filter p ++ l.filter q ++ l.filter r).Perm l := by
  induction l with
  | nil => exact List.Perm.refl _
  | cons a rest ih =>
    rcases h a with ⟨h1, h2, h3⟩ | ⟨h1, h2, h3⟩ | ⟨h1, h2, h3⟩ <;>
      simp only [List.filter_cons, h1, h2, h3, if_true, Bool.false_eq_true, if_false]
    · exact ih.cons a
    · rw [List.append_assoc, List.cons_append]
      rw [List.append_assoc] at ih
      exact List.perm_middle.trans (ih.cons a)
    · exact List.perm_middle.trans (ih.cons a)

theorem zip_range_eq_filterMap {α : Type} (l : List α) :
    (List.range l.length).zip l = (List.range l.length).filterMap fun i => l[i]?.map (Prod.mk i) := by
  induction l with
  | nil => rfl
  | cons a l ih =>
    simp only [List.length_cons, List.range_succ_eq_map, List.zip_cons_cons, List.zip_map_left, ih,
      List.filterMap_cons, List.filterMap_map, List.map_filterMap, Function.comp_def, Option.map_map]
    rfl

theorem countP_mem_range (l : List Nat) (n : Nat) (hnd : l.Nodup) (hlt : ∀ i ∈ l, i < n) :
    (List.range n).countP (fun i => decide (i ∈ l)) = l.length := by
  rw [List.countP_eq_length_filter]
  refine List.Perm.length_eq ((List.perm_ext_iff_of_nodup (List.nodup_range.filter _) hnd).mpr fun a => ?_)
  simp only [List.mem_filter, List.mem_range, decide_eq_true_eq]
  exact ⟨fun h => h.2, fun h => ⟨hlt a h, h⟩⟩

/-- exchanging two segments of equal length moves nothing outside them: in each of the three outer
    zones the same piece is read at the same offset -/
theorem getElem?_exchange {α : Type} (A B C D E : List α) (h : B.length = D.length) (k : Nat)
    (hk : k < A.length ∨ (A.length + B.length ≤ k ∧ k < A.length + B.length + C.length) ∨
      A.length + B.length + C.length + D.length ≤ k) :
    (A ++ D ++ C ++ B ++ E)[k]? = (A ++ B ++ C ++ D ++ E)[k]? := by
  simp only [List.append_assoc]
  rcases hk with hk | ⟨hk1, hk2⟩ | hk
  · rw [List.getElem?_append_left hk, List.getElem?_append_left hk]
  · rw [List.getElem?_append_right (by omega), List.getElem?_append_right (by omega),
      List.getElem?_append_left (by omega), List.getElem?_append_right (by omega),
      List.getElem?_append_right (by omega), List.getElem?_append_left (by omega), h]
  · rw [List.getElem?_append_right (by omega), List.getElem?_append_right (by omega),
      List.getElem?_append_right (by omega), List.getElem?_append_right (by omega),
      List.getElem?_append_right (by omega), List.getElem?_append_right (by omega),
      List.getElem?_append_right (by omega), List.getElem?_append_right (by omega)]
    congr 1; omega

theorem nodup_eraseDups {α : Type} [DecidableEq α] : ∀ (l : List α), l.eraseDups.Nodup
  | [] => List.nodup_nil
  | a :: as => by
    rw [List.eraseDups_cons, List.nodup_cons]
    exact ⟨by simp [List.mem_eraseDups], nodup_eraseDups _⟩
termination_by l => l.length
decreasing_by exact Nat.lt_succ_of_le (List.length_filter_le _ _)

end Cider
