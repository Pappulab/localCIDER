/- the three charge counts of a pattern, and what `patternOf` preserves -/
import Cider.Model.SeqParams
import Cider.Lemmas.Lists

namespace Cider

theorem countPos_cons (x : Int) (p : Pattern) : countPos (x :: p) = countPos p + if 0 < x then 1 else 0 := by
  simp only [countPos, List.countP_cons, decide_eq_true_eq]
theorem countNeg_cons (x : Int) (p : Pattern) : countNeg (x :: p) = countNeg p + if x < 0 then 1 else 0 := by
  simp only [countNeg, List.countP_cons, decide_eq_true_eq]
theorem countNeut_cons (x : Int) (p : Pattern) : countNeut (x :: p) = countNeut p + if x = 0 then 1 else 0 := by
  simp only [countNeut, List.countP_cons, decide_eq_true_eq]

@[simp] theorem countPos_append (p q : Pattern) : countPos (p ++ q) = countPos p + countPos q := List.countP_append
@[simp] theorem countNeg_append (p q : Pattern) : countNeg (p ++ q) = countNeg p + countNeg q := List.countP_append
@[simp] theorem countNeut_append (p q : Pattern) : countNeut (p ++ q) = countNeut p + countNeut q := List.countP_append

@[simp] theorem countPos_blk (n : Nat) (v : Int) : countPos (blk n v) = if 0 < v then n else 0 := by
  simp only [countPos, blk, List.countP_replicate, decide_eq_true_eq]
@[simp] theorem countNeg_blk (n : Nat) (v : Int) : countNeg (blk n v) = if v < 0 then n else 0 := by
  simp only [countNeg, blk, List.countP_replicate, decide_eq_true_eq]
@[simp] theorem countNeut_blk (n : Nat) (v : Int) : countNeut (blk n v) = if v = 0 then n else 0 := by
  simp only [countNeut, blk, List.countP_replicate, decide_eq_true_eq]

theorem countPos_add_countNeg_add_countNeut (p : Pattern) :
    countPos p + countNeg p + countNeut p = p.length := by
  induction p with
  | nil => rfl
  | cons x xs ih =>
    rw [countPos_cons, countNeg_cons, countNeut_cons, List.length_cons]
    split_ifs <;> omega

theorem countP_ne_zero (p : Pattern) : p.countP (fun x => decide (x ≠ 0)) = countPos p + countNeg p := by
  induction p with
  | nil => rfl
  | cons x xs ih =>
    rw [countPos_cons, countNeg_cons, List.countP_cons, ih]
    simp only [decide_eq_true_eq]
    split_ifs <;> omega

theorem patternOf_length (T : Tables) (s : Seq) : (patternOf T s).length = s.length :=
  List.length_map _

theorem nPos_add_nNeg_add_nNeut (T : Tables) (s : Seq) : nPos T s + nNeg T s + nNeut T s = s.length := by
  rw [← patternOf_length T s]; exact countPos_add_countNeg_add_countNeut _

theorem patternOf_congr (T : Tables) {s t : Seq}
    (h : List.Forall₂ (fun a b => T.charge a = T.charge b) s t) : patternOf T s = patternOf T t :=
  map_eq_map_of_forall₂ (h.imp fun _ _ hab => congrArg chargeSign hab)

end Cider
