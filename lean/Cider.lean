-- root of the library: `lake build` (setup) compiles all models, lemmas and property theorems; the source-text ties
-- (Props/CxxSrc, C13Val) are not imported: each `./check` builds its own, and skips it when the translator cannot read the fragment
import Cider.Model.Basic
import Cider.Model.Err
import Cider.Model.Pattern
import Cider.Model.SeqParams
import Cider.Model.TablesGen
import Cider.Model.TablesSpec
import Cider.Model.Text
import Cider.Model.TextOps
import Cider.Model.Object
import Cider.Model.Profiles
import Cider.Model.Moves
import Cider.Model.PH
import Cider.Model.WL
import Cider.Spec.Defs
import Cider.Spec.Published
import Cider.Spec.PublishedPolygons
import Cider.Spec.Partitions
import Cider.Props.C01
import Cider.Props.C01Short
import Cider.Props.C02
import Cider.Props.C02Tie
import Cider.Props.C03
import Cider.Props.C04
import Cider.Props.C04Tie
import Cider.Props.C05
import Cider.Props.C05Tie
import Cider.Props.C06
import Cider.Props.C07
import Cider.Props.C08
import Cider.Props.C09
import Cider.Props.C09Tie
import Cider.Props.C09Pi
import Cider.Props.C10
import Cider.Props.C10Tie
import Cider.Props.C11
import Cider.Props.C11Real
import Cider.Props.C12
import Cider.Props.C13
import Cider.Props.C13Tie
import Cider.Props.C14
import Cider.Props.C15
import Cider.Props.C16
import Cider.Props.C16Tie
import Cider.Props.C17
import Cider.Props.C18
import Cider.Props.C18Bin
import Cider.Props.C19
import Cider.Props.C19Tie
import Cider.Props.C20
import Cider.Props.C20Tie
